/-
  Lemmas/Proto — `sproto_pop_in_sdp` (model `popInSdp`) implements the grammar `parseHead`
  on the buffered bytes, under the buffer invariant; buffer invariants are preserved.
-/
import SuplaVerif.Lemmas.Frame

namespace SuplaVerif
open Bytes

/-- kept by `sproto_in_buffer_append` / `sproto_pop_in_sdp`: `begin_tag` is set only after the tag was
    compared, `data_size ≤ size < BUFFER_MAX_SIZE` -/
structure AccBuf.Inv (P : ProtoParams) (b : AccBuf) : Prop where
  tagOk : b.beginTag = true → 5 ≤ b.data.length ∧ b.data.take 5 = TAG
  fits  : b.data.length ≤ b.size
  below : b.size < P.bufMax

theorem AccBuf.Inv.init (P : ProtoParams) (h : 0 < P.bufMax) : ({} : AccBuf).Inv P :=
  { tagOk := (fun h => by cases h), fits := Nat.le_refl _, below := h }

theorem AccBuf.shrink_data (P : ProtoParams) (b : AccBuf) (n : Nat) :
    (b.shrink P n).data = b.data.drop n ∧ (b.shrink P n).beginTag = false := ⟨rfl, rfl⟩

theorem AccBuf.shrink_all (P : ProtoParams) (b : AccBuf) :
    (b.shrink P b.data.length).data = [] ∧ (b.shrink P b.data.length).beginTag = false :=
  ⟨List.drop_length, rfl⟩

theorem AccBuf.Inv.shrink {P : ProtoParams} {b : AccBuf} (hb : b.Inv P) (n : Nat)
    (hm : P.bufMin < P.bufMax) : (b.shrink P n).Inv P := by
  obtain ⟨_, hf, hbel⟩ := hb
  refine ⟨by simp [AccBuf.shrink], ?_, ?_⟩
  · -- fits: the new size is the old one, `bufMin` or the remaining length
    simp only [AccBuf.shrink, List.length_drop]
    fun_cases AccBuf.shrinkSize P b (b.data.length - n) <;> omega
  · -- below: each of the three is below `bufMax`
    simp only [AccBuf.shrink]
    fun_cases AccBuf.shrinkSize P b (b.data.length - n) <;> omega

theorem AccBuf.appendSize_ge (P : ProtoParams) (b : AccBuf) (n : Nat) (hf : b.data.length ≤ b.size) :
    b.data.length + n ≤ b.appendSize P n := by
  unfold AccBuf.appendSize
  split <;> split <;> omega

theorem AccBuf.append_cases (P : ProtoParams) (b : AccBuf) (d : Bytes) :
    b.append P d = (.bufferOverflow, b) ∨
    (b.appendSize P d.length < P.bufMax ∧
      b.append P d = (.ok, { b with data := b.data ++ d, size := b.appendSize P d.length })) := by
  unfold AccBuf.append
  by_cases h : b.appendSize P d.length ≥ P.bufMax
  · rw [if_pos h]; exact .inl rfl
  · rw [if_neg h]; exact .inr ⟨by omega, rfl⟩

theorem AccBuf.Inv.append {P : ProtoParams} {b : AccBuf} (hb : b.Inv P) (d : Bytes)
    (h : b.appendSize P d.length < P.bufMax) :
    ({ b with data := b.data ++ d, size := b.appendSize P d.length } : AccBuf).Inv P := by
  refine ⟨fun hbt => ?_, by simpa using AccBuf.appendSize_ge P b d.length hb.fits, h⟩
  obtain ⟨h5, ht⟩ := hb.tagOk hbt
  exact ⟨by simp only [List.length_append]; omega, by rw [List.take_append_of_le_length h5]; exact ht⟩

theorem AccBuf.Inv.beginTag_false {P : ProtoParams} {b : AccBuf} (hb : b.Inv P)
    (h : b.data.length < 5 ∨ b.data.take 5 ≠ TAG) : b.beginTag = false := by
  cases hbt : b.beginTag with
  | false => rfl
  | true =>
    obtain ⟨h5, ht⟩ := hb.tagOk hbt
    rcases h with h | h
    · omega
    · exact absurd ht h

theorem decodeSdp_append (P : ProtoParams) (a b : Bytes) (h18 : 18 ≤ P.hdr)
    (h : P.hdr + le32 (a.drop 14) ≤ a.length) : decodeSdp P (a ++ b) = decodeSdp P a := by
  unfold decodeSdp
  rw [le32_drop_append a b 6 (by omega), le32_drop_append a b 10 (by omega),
    le32_drop_append a b 14 (by omega), getD_append_lt a b 5 (by omega),
    List.drop_append_of_le_length (by omega),
    List.take_append_of_le_length (by rw [List.length_drop]; omega)]

/-- the `memcpy` into the scratch packet decodes like the buffer itself -/
theorem decodeSdp_overlay (P : ProtoParams) (scratch d : Bytes) (n : Nat) (h18 : 18 ≤ P.hdr)
    (hn : n ≤ d.length) (h : P.hdr + le32 (d.drop 14) ≤ n) :
    decodeSdp P (overlay scratch d n) = decodeSdp P d := by
  -- the size field of `d.take n` is that of `d`
  have e := le32_drop_append (d.take n) (d.drop n) 14 (by rw [List.length_take]; omega)
  rw [List.take_append_drop] at e
  have ha : P.hdr + le32 ((d.take n).drop 14) ≤ (d.take n).length := by
    rw [List.length_take]; omega
  rw [overlay, decodeSdp_append P _ _ h18 ha, ← decodeSdp_append P _ (d.drop n) h18 ha, List.take_append_drop]

theorem popInSdp_spec (P : ProtoParams) (hP : P.WF) (hm : P.bufMin < P.bufMax) (b : AccBuf)
    (scratch : Bytes) (hb : b.Inv P) :
    ∃ r b' sdp, popInSdp P b scratch = (r, b', sdp) ∧ b'.Inv P ∧
      match parseHead P b.data with
      | .needMore => r = .false_ ∧ b'.data = b.data ∧ sdp = scratch
      | .bad => r = .dataError ∧ b'.data = [] ∧ sdp = scratch
      | .badVersion => r = .versionError ∧ b'.data = []
      | .frame f rest => r = .ok ∧ b'.data = rest ∧ decodeSdp P sdp = f := by
  have hmax := hP.maxLt
  unfold U32 at hmax
  have hfit := hb.fits
  have hdrop := hb.shrink b.data.length hm
  have hnil := (AccBuf.shrink_all P b).1
  -- both if-chains in lockstep; a bare `if_neg (by ..)` would hit `parseHead`'s next `if`, so
  -- `show ¬(_ ∧ _)` / `show ¬(_ ∨ _)` pick the guards only `popInSdp` has
  unfold parseHead popInSdp
  by_cases h5 : b.data.length < 5
  · rw [if_pos h5, if_neg (by omega), if_pos ⟨hb.beginTag_false (.inl h5), h5⟩]
    exact ⟨_, _, _, rfl, hb, rfl, rfl, rfl⟩
  by_cases ht : b.data.take 5 = TAG
  case neg =>
    rw [if_neg h5, if_pos ht, if_pos ⟨hb.beginTag_false (.inr ht), by omega, ht⟩]
    exact ⟨_, _, _, rfl, hdrop, rfl, hnil, rfl⟩
  have hkeep : ({ b with beginTag := true } : AccBuf).Inv P :=
    { tagOk := fun _ => ⟨Nat.le_of_not_lt h5, ht⟩, fits := hfit, below := hb.below }
  rw [if_neg h5, if_neg (not_not_intro ht), if_neg (show ¬(_ ∧ _) by simp [ht]), if_neg (show ¬(_ ∧ _) by omega)]
  by_cases hh : b.data.length - 5 < P.hdr
  · rw [if_pos hh, if_pos hh]
    exact ⟨_, _, _, rfl, hkeep, rfl, rfl, rfl⟩
  rw [if_neg hh, if_neg hh]
  by_cases hv : (b.data.getD 5 0).toNat > P.ver ∨ (b.data.getD 5 0).toNat < P.verMin
  · rw [if_pos hv, if_pos hv]
    exact ⟨_, _, _, rfl, hdrop, rfl, hnil⟩
  rw [if_neg hv, if_neg hv]
  by_cases hds : le32 (b.data.drop 14) > P.maxData
  · rw [if_pos hds, if_pos (Or.inl hds)]
    exact ⟨_, _, _, rfl, hdrop, rfl, hnil, rfl⟩
  -- with a small size field the 32-bit sums of the C do not wrap
  rw [if_neg hds, Nat.mod_eq_of_lt (by unfold U32; omega), Nat.mod_eq_of_lt (by unfold U32; omega),
    if_neg (show ¬(_ ∨ _) by omega)]
  by_cases hlen : P.hdr + le32 (b.data.drop 14) + 5 > b.data.length
  · rw [if_pos hlen, if_pos hlen]
    exact ⟨_, _, _, rfl, hkeep, rfl, rfl, rfl⟩
  rw [if_neg hlen, if_neg hlen]
  by_cases hend : (b.data.drop (P.hdr + le32 (b.data.drop 14))).take 5 = TAG
  case neg =>
    rw [if_pos hend, if_pos (Or.inr hend)]
    exact ⟨_, _, _, rfl, hdrop, rfl, hnil, rfl⟩
  -- the end tag is inside the allocation: `hdr + n + 5 ≤ data.length ≤ size` (`Inv.fits`)
  rw [if_neg (not_not_intro hend), if_neg (by simp [hend]; omega)]
  exact ⟨_, _, _, rfl, hb.shrink _ hm, rfl, rfl,
    decodeSdp_overlay P _ _ _ (by have := hP.hdr18; omega) (by omega) (Nat.le_refl _)⟩

end SuplaVerif
