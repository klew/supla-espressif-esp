/-
  Lemmas/FormScan — the pieces of the field scanner of the configuration form (Model/FormScan, supla_esp_parse_vars):
  every iteration consumes at least one byte, so the length of the segment is enough fuel; the copy step stays inside
  the field.
-/
import SuplaVerif.Model.FormScan
namespace SuplaVerif

theorem lookup_some (T : List Row) (mqtt : Bool) (nm : Bytes) (r : Row) (h : lookup T mqtt nm = some r) :
    r ∈ T ∧ r.name = nm ∧ condOk r mqtt = true := by
  revert h
  fun_cases lookup T mqtt nm
  case case1 r' hfound hcond =>         -- a row found, its condition met
    intro h
    cases h
    exact ⟨List.mem_of_find?_eq_some hfound, by simpa using List.find?_some hfound, hcond⟩
  case case2 =>                         -- a row found, its condition not met: `none`
    intro h
    cases h
  case case3 =>                         -- no row found: `none`
    intro h
    cases h

-- cases of `copyStep`: 1 a %XX escape (two digits skipped), 2 a plain byte, 3 nothing copied (buffer full, end, or '&')
theorem copyStep_len (size : Nat) (buf l : Bytes) (h : buf.length ≤ size) : (copyStep size buf l).1.length ≤ size := by
  fun_cases copyStep size buf l
  case case3 => exact h
  all_goals                             -- one byte appended, and only below `size`
    rename_i hroom _
    rw [List.length_append]
    exact hroom.1

theorem copyStep_rest (size : Nat) (buf l : Bytes) : (copyStep size buf l).2 = l ∨ (copyStep size buf l).2 = l.drop 2 := by
  fun_cases copyStep size buf l
  · exact Or.inr rfl                    -- an escape: its two digits are skipped
  · exact Or.inl rfl
  · exact Or.inl rfl

theorem iter_rest (T : List Row) (mqtt : Bool) (l : Bytes) (cur : Option (Row × Bytes)) :
    ∃ k, 0 < k ∧ (iter T mqtt l cur).rest = l.drop k := by
  unfold iter
  simp only
  -- a name position skips "xyz=" (4), the copy step 0 or 2, then the loop index moves by 1
  obtain ⟨k0, hk0⟩ : ∃ k0, (if (cur.isNone && atName l) = true then l.drop 4 else l) = l.drop k0 := by
    split
    · exact ⟨4, rfl⟩
    · exact ⟨0, rfl⟩
  rw [hk0]
  split
  · exact ⟨k0 + 1, Nat.succ_pos _, List.drop_drop⟩      -- no field in work
  · rename_i row buf _                                   -- a field in work; same rest, value ended or not
    obtain ⟨j, hj⟩ : ∃ j, (copyStep row.size buf (l.drop k0)).2 = (l.drop k0).drop j :=
      (copyStep_rest row.size buf (l.drop k0)).elim (fun h => ⟨0, h⟩) (fun h => ⟨2, h⟩)
    refine ⟨k0 + j + 1, Nat.succ_pos _, ?_⟩
    split <;> simp only [hj, List.drop_drop]

/-- more fuel than bytes changes nothing -/
theorem scanF_fuel (T : List Row) (mqtt : Bool) (n : Nat) : ∀ (l : Bytes) (cur : Option (Row × Bytes)), l.length ≤ n →
    scanF T mqtt n l cur = scanF T mqtt l.length l cur := by
  -- both sides take the same first iteration; its rest is shorter, so both remaining fuels cover it
  induction n using Nat.strongRecOn with
  | _ n ih =>
    intro l cur h
    cases n with
    | zero =>
      have : l.length = 0 := by omega
      rw [this]
    | succ n =>
      cases hl : l with
      | nil => simp [scanF]
      | cons c rest =>
        obtain ⟨k, hk, he⟩ := iter_rest T mqtt (c :: rest) cur
        have hlen : (iter T mqtt (c :: rest) cur).rest.length ≤ rest.length := by
          rw [he]; simp; omega
        have h1 : rest.length ≤ n := by rw [hl] at h; simp at h; omega
        simp only [scanF, List.length_cons]
        rw [ih n (by omega) _ _ (Nat.le_trans hlen h1), ih rest.length (by omega) _ _ hlen]

end SuplaVerif
