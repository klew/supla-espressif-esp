/-
  Lemmas/MqttAck — proofs about Model/MqttAck: how every queue operation changes `cnt`, the number of entries of a type and id
  that are not complete (for type 5: the PUBRECs that wait for their PUBREL), and from that the refinement of the flow
  specification by every event (C16.10-12).
-/
import SuplaVerif.Model.MqttAck
namespace SuplaVerif.MqttAck

theorem pending_iff (q : MQ) (ty pid : Nat) : pending q ty pid = true ↔ 0 < cnt q ty pid := by
  unfold pending cnt
  rw [List.countP_pos_iff, List.any_eq_true]

theorem isPending_iff (ty pid : Nat) (m : QMsg) :
    isPending ty pid m = true ↔ m.ty = ty ∧ m.pid = pid ∧ m.done = false := by
  simp [isPending, and_assoc]

theorem cnt_cons (m : QMsg) (q : MQ) (ty pid : Nat) :
    cnt (m :: q) ty pid = cnt q ty pid + if isPending ty pid m = true then 1 else 0 := List.countP_cons ..

theorem cnt_append (q : MQ) (m : QMsg) (ty pid : Nat) :
    cnt (q ++ [m]) ty pid = cnt q ty pid + if isPending ty pid m = true then 1 else 0 := by
  unfold cnt; rw [List.countP_append, List.countP_singleton]

theorem cnt_markFirst (q : MQ) (ty pid ty' pid' : Nat) :
    cnt (markFirst (isPending ty pid) q) ty' pid' = cnt q ty' pid' - if ty' = ty ∧ pid' = pid then 1 else 0 := by
  induction q with
  | nil => exact (Nat.zero_sub _).symm
  | cons m q ih =>
    rw [markFirst]
    by_cases h : isPending ty pid m = true
    · rw [if_pos h, cnt_cons, cnt_cons, if_neg (by simp [isPending])]
      obtain ⟨h1, h2, h3⟩ := (isPending_iff ty pid m).mp h
      by_cases hs : ty' = ty ∧ pid' = pid
      · rw [if_pos hs, if_pos ((isPending_iff ty' pid' m).mpr ⟨by omega, by omega, h3⟩)]; rfl
      · rw [if_neg hs, if_neg (fun hp => hs (by have := (isPending_iff ty' pid' m).mp hp; omega))]; rfl
    · rw [if_neg h, cnt_cons, cnt_cons, ih]
      by_cases hs : ty' = ty ∧ pid' = pid
      · -- the head adds 0 here, so taking one off before or after adding it is the same
        rw [hs.1, hs.2, if_neg h]; rfl
      · rw [if_neg hs]; rfl

theorem cnt_ackOf (q : MQ) (ty pid : Nat) (stage : Option Nat) (ty' pid' : Nat) (hs : stage ≠ some ty') :
    cnt (ackOf q ty pid stage).1 ty' pid' = cnt q ty' pid' - if ty' = ty ∧ pid' = pid then 1 else 0 := by
  -- `ackOf` goes on with the queue of `complete` or, nothing found (the error), with the old one: `.getD q` is both
  have hc : cnt ((complete q ty pid).getD q) ty' pid' = cnt q ty' pid' - if ty' = ty ∧ pid' = pid then 1 else 0 := by
    unfold complete
    by_cases hp : pending q ty pid = true
    · rw [if_pos hp]; exact cnt_markFirst q ty pid ty' pid'
    · -- nothing waits: the queue stays
      have h0 : cnt q ty pid = 0 := Nat.eq_zero_of_not_pos (fun h => hp ((pending_iff q ty pid).mpr h))
      have : (if found q ty pid = true then some q else none).getD q = q := by split <;> rfl
      rw [if_neg hp, this]
      by_cases hs : ty' = ty ∧ pid' = pid
      · rw [hs.1, hs.2, h0]; exact (Nat.zero_sub _).symm
      · rw [if_neg hs]; rfl
  rw [← hc, ackOf]
  cases complete q ty pid with
  | none => rfl
  | some q' =>
    cases stage with
    | none => rfl
    | some t =>
      have : ¬ isPending ty' pid' ⟨t, pid, false⟩ = true := fun h => hs (congrArg some ((isPending_iff ..).mp h).1)
      simp only [cnt_append, if_neg this]; rfl

theorem cnt_flush (q : MQ) (pid : Nat) :
    cnt (q.map (fun m => if m.ty = 4 ∨ m.ty = 7 then { m with done := true } else m)) 5 pid = cnt q 5 pid := by
  unfold cnt
  rw [List.countP_map]
  congr 1; funext m
  by_cases h : m.ty = 4 ∨ m.ty = 7
  · simp only [Function.comp, if_pos h]
    have : ¬ isPending 5 pid m = true := fun hp => by have := (isPending_iff ..).mp hp; omega
    rw [Bool.not_eq_true] at this; rw [this]; simp [isPending]
  · simp only [Function.comp, if_neg h]

theorem cnt_clean (q : MQ) (ty pid : Nat) : cnt (q.dropWhile (·.done)) ty pid = cnt q ty pid := by
  induction q with
  | nil => rfl
  | cons m q ih =>
    rw [List.dropWhile_cons]
    by_cases h : m.done = true
    · rw [if_pos h, ih, cnt_cons, if_neg (fun hp => by rw [((isPending_iff ..).mp hp).2.2] at h; cases h)]; rfl
    · rw [if_neg h]

/-- `Inv` and `Abs` in one: the waiting PUBRECs are exactly one per open flow -/
def Rep (q : MQ) (o : List Nat) : Prop := ∀ pid, cnt q 5 pid = if pid ∈ o then 1 else 0

theorem inv_abs_iff (q : MQ) (o : List Nat) : Inv q ∧ Abs q o ↔ Rep q o := by
  constructor
  · intro ⟨hI, hA⟩ pid
    have := hI pid
    by_cases h : pid ∈ o
    · rw [if_pos h]; have := (hA pid).mpr h; omega
    · rw [if_neg h]; have : ¬ 0 < cnt q 5 pid := fun hc => h ((hA pid).mp hc); omega
  · intro h
    constructor
    · -- `Inv`: every count is 0 or 1
      intro pid
      rw [h pid]
      by_cases hp : pid ∈ o
      · rw [if_pos hp]; exact Nat.le_refl 1
      · rw [if_neg hp]; exact Nat.zero_le 1
    · -- `Abs`: the count is positive exactly for the open flows
      intro pid
      rw [h pid]
      by_cases hp : pid ∈ o
      · rw [if_pos hp]; exact ⟨fun _ => hp, fun _ => Nat.one_pos⟩
      · rw [if_neg hp]; exact ⟨fun h0 => absurd h0 (Nat.lt_irrefl 0), fun h1 => absurd h1 hp⟩

theorem publish_step (q : MQ) (o : List Nat) (h : Rep q o) (qos x : Nat) :
    Rep (handle q (.publish qos x)).1 (specStep o (.pkt (.publish qos x))).1 ∧
      (handle q (.publish qos x)).2.delivered = (specStep o (.pkt (.publish qos x))).2 := by
  simp only [handle, specStep]
  by_cases h1 : qos = 1
  · simp only [if_pos h1, if_neg (show ¬ qos = 2 by omega), and_true]
    intro p; rw [cnt_append]; exact h p
  by_cases h2 : qos = 2
  · -- a PUBREC of this id waits exactly if the flow is open
    have hx : pending q 5 x = true ↔ x ∈ o := by
      rw [pending_iff, h x]; by_cases hx : x ∈ o <;> simp [hx]
    by_cases ho : x ∈ o
    · simp only [if_neg h1, if_pos h2, if_pos (hx.mpr ho), if_pos ho, and_true]; exact h
    · simp only [if_neg h1, if_pos h2, if_neg (fun hc => ho (hx.mp hc)), if_neg ho, and_true]
      intro p
      rw [cnt_append, h p]
      by_cases hpx : p = x
      · subst hpx; simp [isPending, ho]
      · simp [isPending, hpx, Ne.symm hpx]
  · simp only [if_neg h1, if_neg h2, and_true]; exact h

theorem rep_step (q : MQ) (o : List Nat) (e : Ev) (h : Rep q o) (hw : e.wf) : Rep (step q e).1 (specStep o e).1 := by
  intro p
  have other : ∀ ty x st, ty ≠ 5 → st ≠ some 5 → cnt (ackOf q ty x st).1 5 p = if p ∈ o then 1 else 0 := by
    intro ty x st h1 h2
    rw [cnt_ackOf q ty x st 5 p h2, if_neg (fun hc => h1 hc.1.symm)]; exact h p
  cases e with
  | flush => exact (cnt_flush q p).trans (h p)
  | clean => exact (cnt_clean q 5 p).trans (h p)
  | own ty pid =>
    have : ¬ isPending 5 p ⟨ty, pid, false⟩ = true := fun hp => hw ((isPending_iff ..).mp hp).1
    rw [step, cnt_append, if_neg this]; exact h p
  | pkt pk =>
    cases pk with
    | publish qos x => exact (publish_step q o h qos x).1 p
    | puback x => exact other 3 x none (by decide) (by decide)
    | pubcomp x => exact other 6 x none (by decide) (by decide)
    | suback x => exact other 8 x none (by decide) (by decide)
    | unsuback x => exact other 10 x none (by decide) (by decide)
    | pubrec x =>
      simp only [step, handle]
      split
      · exact h p
      · exact other 3 x (some 6) (by decide) (by decide)
    | pubrel x =>
      simp only [step, handle, specStep]
      rw [cnt_ackOf q 5 x (some 7) 5 p (by decide), h p]
      by_cases hx : p = x
      · subst hx; by_cases hp : p ∈ o <;> simp [hp]
      · simp [hx]

theorem complete_found (q q' : MQ) (ty pid : Nat) (h : complete q ty pid = some q') : found q ty pid = true := by
  unfold complete at h
  by_cases hp : pending q ty pid = true
  · -- what waits is there
    obtain ⟨m, hm, hpm⟩ := List.any_eq_true.mp hp
    exact List.any_eq_true.mpr ⟨m, hm, by simp [isPending] at hpm; simp [isAny, hpm.1]⟩
  · by_cases hf : found q ty pid = true
    · exact hf
    · rw [if_neg hp, if_neg hf] at h; cases h

theorem ackOf_ok (q : MQ) (ty pid : Nat) (stage : Option Nat) (h : (ackOf q ty pid stage).2.err = false) :
    found q ty pid = true := by
  unfold ackOf at h
  cases hc : complete q ty pid with
  | none => rw [hc] at h; cases h
  | some q' => exact complete_found q q' ty pid hc

end SuplaVerif.MqttAck
