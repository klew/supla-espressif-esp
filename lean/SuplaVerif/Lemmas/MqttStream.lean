/-
  Lemmas/MqttStream — the receive loop over any parser satisfying `ParserOK`: the packets taken out of the
  buffer are always the successive packets of the accepted byte stream, whatever the segmentation.
-/
import SuplaVerif.Model.MqttRecv
namespace SuplaVerif.MqttRecv

variable {p : Bytes → Parsed} (hp : ParserOK p) (hok : List Bytes → Bytes → Bool) (cap : Nat)
include hp

theorem chain_append_stream (hs : List Bytes) : ∀ (A x : Bytes), Chain p hs A → Chain p hs (A ++ x) := by
  induction hs with
  | nil => intro A x _; trivial
  | cons q qs ih =>
    intro A x h
    obtain ⟨h1, h2, h3⟩ := h
    have hsz := (hp.size A q.length h1).2
    refine ⟨hp.pktStable A x _ h1, ?_, ?_⟩
    · rw [List.take_append_of_le_length hsz]; exact h2
    · rw [List.drop_append_of_le_length hsz]; exact ih _ _ h3

omit hp in
theorem chain_snoc (hs : List Bytes) : ∀ (A buf : Bytes) (n : Nat), A = hs.flatten ++ buf → Chain p hs A →
    p buf = .pkt n → n ≤ buf.length →
    A = (hs ++ [buf.take n]).flatten ++ buf.drop n ∧ Chain p (hs ++ [buf.take n]) A := by
  induction hs with
  | nil =>
    intro A buf n hA _ hpk hn
    rw [hA]
    have hl : (List.take n buf).length = n := List.length_take_of_le hn
    exact ⟨by simp, by rw [hl]; exact hpk, by rw [hl]; rfl, trivial⟩
  | cons q qs ih =>
    intro A buf n hA ⟨h1, h2, h3⟩ hpk hn
    have hd : A.drop q.length = qs.flatten ++ buf := by rw [hA]; simp
    obtain ⟨_, c⟩ := ih _ buf n hd h3 hpk hn
    exact ⟨by rw [hA]; simp, h1, h2, c⟩

/-- two splits of `A` into successive packets and a rest that needs more bytes coincide -/
theorem chain_unique (hs1 : List Bytes) : ∀ (hs2 : List Bytes) (A r1 r2 : Bytes),
    A = hs1.flatten ++ r1 → A = hs2.flatten ++ r2 → Chain p hs1 A → Chain p hs2 A →
    p r1 = .need → p r2 = .need → hs1 = hs2 ∧ r1 = r2 := by
  induction hs1 with
  | nil =>
    intro hs2 A r1 r2 e1 e2 _ c2 n1 n2
    cases hs2 with
    | nil => exact ⟨rfl, e1.symm.trans e2⟩
    | cons q qs => have := c2.1; rw [show A = r1 from e1, n1] at this; cases this
  | cons q qs ih =>
    intro hs2 A r1 r2 e1 e2 ⟨a1, a2, a3⟩ c2 n1 n2
    cases hs2 with
    | nil => rw [show A = r2 from e2, n2] at a1; cases a1
    | cons q2 qs2 =>
      obtain ⟨b1, b2, b3⟩ := c2
      have hl : q.length = q2.length := by rw [a1] at b1; injection b1
      have hq : q = q2 := by rw [a2, b2, hl]
      subst hq
      have d : ∀ {qs r}, A = (q :: qs).flatten ++ r → A.drop q.length = qs.flatten ++ r := by
        intro qs r e; rw [e]; simp
      obtain ⟨h1, h2⟩ := ih qs2 _ r1 r2 (d e1) (d e2) a3 b3 n1 n2
      exact ⟨by rw [h1], h2⟩

theorem chain_of_valid (qs : List Bytes) (hv : ∀ q ∈ qs, p q = .pkt q.length) (x : Bytes) :
    Chain p qs (qs.flatten ++ x) := by
  induction qs with
  | nil => trivial
  | cons q qs ih =>
    rw [List.flatten_cons, List.append_assoc]
    refine ⟨hp.pktStable q _ _ (hv q List.mem_cons_self), List.take_left.symm, ?_⟩
    rw [List.drop_left]
    exact ih (fun q' h' => hv q' (List.mem_cons_of_mem _ h'))

theorem drain_pkt (hs : List Bytes) (buf : Bytes) (n : Nat) (h : p buf = .pkt n) (ho : hok hs (buf.take n) = true) :
    drain p hok cap hs buf = drain p hok cap (hs ++ [buf.take n]) (buf.drop n) := by
  rw [drain, h]; simp only; rw [dif_pos (hp.size buf n h), if_pos ho]

-- cases of `drain`: 1 need more, 2 protocol error, 3 a packet, accepted (the loop goes on), 4 a packet, refused (taken out, error),
-- 5 a packet length outside the buffer
omit hp in
theorem drain_idle (hs : List Bytes) (buf : Bytes) :
    (drain p hok cap hs buf).2.2 = false →
      p (drain p hok cap hs buf).2.1 = .need ∧ (drain p hok cap hs buf).2.1.length < cap := by
  fun_induction drain p hok cap hs buf with
  | case1 hs buf hn => exact fun he => ⟨hn, by simpa using he⟩
  | case3 hs buf n hpk hsz hh ih => exact ih
  | case2 | case4 | case5 => intro h; cases h

/-- one run of the __mqtt_recv loop keeps the accepted stream and its chain, only adds to the handled packets, only takes from
    the kept bytes, and without an error ends on "need more" below the buffer size -/
theorem drain_spec (hs : List Bytes) (buf : Bytes) : ∀ (A : Bytes), A = hs.flatten ++ buf → Chain p hs A →
    let r := drain p hok cap hs buf
    A = r.1.flatten ++ r.2.1 ∧ Chain p r.1 A ∧ hs <+: r.1 ∧ r.2.1.length ≤ buf.length ∧
      (r.2.2 = false → p r.2.1 = .need ∧ r.2.1.length < cap) := by
  -- the last conjunct is `drain_idle`; the others go along the loop
  have along : ∀ A, A = hs.flatten ++ buf → Chain p hs A →
      A = (drain p hok cap hs buf).1.flatten ++ (drain p hok cap hs buf).2.1 ∧ Chain p (drain p hok cap hs buf).1 A ∧
        hs <+: (drain p hok cap hs buf).1 ∧ (drain p hok cap hs buf).2.1.length ≤ buf.length := by
    fun_induction drain p hok cap hs buf with
    | case1 | case2 | case5 => exact fun A hA hc => ⟨hA, hc, List.prefix_refl _, Nat.le_refl _⟩
    | case3 hs buf n hpk hsz hh ih =>
      intro A hA hc
      obtain ⟨hA', hc'⟩ := chain_snoc hs A buf n hA hc hpk hsz.2
      obtain ⟨g1, g2, g3, g4⟩ := ih A hA' hc'
      exact ⟨g1, g2, (List.prefix_append hs _).trans g3, by rw [List.length_drop] at g4; omega⟩
    | case4 hs buf n hpk hsz hh =>
      intro A hA hc
      obtain ⟨hA', hc'⟩ := chain_snoc hs A buf n hA hc hpk hsz.2
      exact ⟨hA', hc', List.prefix_append hs _, by rw [List.length_drop]; omega⟩
  intro A hA hc
  obtain ⟨h1, h2, h3, h4⟩ := along A hA hc
  exact ⟨h1, h2, h3, h4, drain_idle hok cap hs buf⟩

/-- holds at every point, also between storing a part and the sync that follows -/
structure Core (p : Bytes → Parsed) (cap : Nat) (s : RState) (A : Bytes) : Prop where
  stream : A = s.hs.flatten ++ s.buf
  chain : Chain p s.hs A
  bound : s.buf.length ≤ cap
  gapErr : s.gap = true → s.err = true

/-- holds between events: additionally an error-free client has drained its buffer -/
structure Inv (p : Bytes → Parsed) (cap : Nat) (s : RState) (A : Bytes) : Prop extends Core p cap s A where
  idle : s.err = false → p s.buf = .need

theorem inv_init : Inv p cap {} [] :=
  ⟨⟨rfl, trivial, Nat.zero_le _, fun h => by cases h⟩, fun _ => hp.empty⟩

omit hp in
/-- with the error flag up `Inv` asks for `Core` only, and `Core.gapErr` holds because the flag is up -/
theorem Core.error {cap : Nat} {s s' : RState} {A : Bytes} (h : Core p cap s A) (hb : s'.buf = s.buf) (hh : s'.hs = s.hs)
    (he : s'.err = true) : Inv p cap s' A :=
  ⟨⟨by rw [hb, hh]; exact h.stream, by rw [hh]; exact h.chain, by rw [hb]; exact h.bound, fun _ => he⟩,
    fun h' => by rw [he] at h'; cases h'⟩

theorem syncStep_inv (s : RState) (A : Bytes) (h : Core p cap s A) :
    Inv p cap (syncStep p hok cap s) A ∧ s.hs <+: (syncStep p hok cap s).hs ∧
      (syncStep p hok cap s).gap = s.gap := by
  obtain ⟨hstream, hchain, hhs, hlen, hidle⟩ := drain_spec hp hok cap s.hs s.buf A h.stream h.chain
  unfold syncStep
  refine ⟨{ stream := hstream, chain := hchain, bound := Nat.le_trans hlen h.bound, gapErr := ?_, idle := ?_ }, hhs, rfl⟩
  · intro hg
    rw [h.gapErr hg]; rfl
  · intro he
    simp only [Bool.or_eq_false_iff] at he
    exact (hidle he.2).1

theorem store_sync_inv (s : RState) (A seg : Bytes) (n : Nat) (h : Core p cap s A) (hn : n ≤ cap - s.buf.length) :
    Inv p cap (syncStep p hok cap { s with buf := s.buf ++ seg.take n }) (A ++ seg.take n) ∧
      s.hs <+: (syncStep p hok cap { s with buf := s.buf ++ seg.take n }).hs ∧
      (syncStep p hok cap { s with buf := s.buf ++ seg.take n }).gap = s.gap := by
  refine syncStep_inv hp hok cap _ _ ⟨?_, chain_append_stream hp _ _ _ h.chain, ?_, h.gapErr⟩
  · rw [h.stream, List.append_assoc]
  · have := h.bound; have := List.length_take_le n seg; simp only [List.length_append]; omega

-- cases of `feedLoop`: 1 nothing left, 2 no room (rest dropped, gap and error raised), 3 a part stored and synced with an error
-- (rest dropped), 4 a part stored and synced without one (on with the rest)
/-- a segment: the accepted part is a prefix of it, all of it unless the gap flag is raised -/
theorem feedLoop_inv (s : RState) (seg : Bytes) : ∀ (A : Bytes), Inv p cap s A → s.gap = false →
    ∃ acc, acc <+: seg ∧ Inv p cap (feedLoop p hok cap s seg) (A ++ acc) ∧
      ((feedLoop p hok cap s seg).gap = false → acc = seg) ∧ s.hs <+: (feedLoop p hok cap s seg).hs := by
  fun_induction feedLoop p hok cap s seg with
  | case1 s =>
    intro A h hg
    exact ⟨[], List.prefix_refl _, by simpa using h, fun _ => rfl, List.prefix_refl _⟩
  | case2 s seg hnil hz =>
    intro A h hg
    exact ⟨[], List.nil_prefix, by rw [List.append_nil]; exact h.toCore.error rfl rfl rfl, (fun hgap => by cases hgap),
      List.prefix_refl _⟩
  | case3 s seg hnil hz part s' herr =>
    intro A h hg
    obtain ⟨hinv, hhs, _⟩ := store_sync_inv hp hok cap s A seg part h.toCore (Nat.min_le_right _ _)
    refine ⟨seg.take part, List.take_prefix _ _, hinv.toCore.error rfl rfl herr, fun hgap => ?_, hhs⟩
    have : ¬ part < seg.length := by simpa using hgap
    rw [List.take_of_length_le (by omega)]
  | case4 s seg hnil hz part s' herr ih =>
    intro A h hg
    obtain ⟨hinv, hhs, hgap'⟩ := store_sync_inv hp hok cap s A seg part h.toCore (Nat.min_le_right _ _)
    obtain ⟨acc, ⟨t, ht⟩, rinv, rall, rhs⟩ := ih (A ++ seg.take part) hinv (hgap'.trans hg)
    refine ⟨seg.take part ++ acc, ⟨t, ?_⟩, ?_, ?_, hhs.trans rhs⟩
    · rw [List.append_assoc, ht, List.take_append_drop]
    · rw [← List.append_assoc]; exact rinv
    · intro hgap
      rw [rall hgap, List.take_append_drop]

omit hp in
theorem gap_stays (s : RState) (e : REv) (h : s.gap = true) : (step p hok cap s e).gap = true := by
  cases e with
  | seg d => simp [step, h]
  | sync => simp [step, syncStep, h]
  | extErr => simp [step, h]

omit hp in
theorem run_gap_stays (es : List REv) : ∀ (s : RState), s.gap = true → (run p hok cap s es).gap = true := by
  induction es with
  | nil => intro s h; exact h
  | cons e es ih => intro s h; exact ih _ (gap_stays hok cap s e h)

-- `acc`: what the event adds to the accepted stream
theorem step_inv (s : RState) (e : REv) (A : Bytes) (h : Inv p cap s A) :
    ∃ acc, acc <+: offered [e] ∧ Inv p cap (step p hok cap s e) (A ++ acc) ∧
      ((step p hok cap s e).gap = false → acc = offered [e]) ∧ s.hs <+: (step p hok cap s e).hs ∧
      (s.gap = true → acc = []) := by
  cases e with
  | seg d =>
    rw [show offered [.seg d] = d from List.append_nil d]
    cases hg : s.gap
    · rw [show step p hok cap s (.seg d) = feedLoop p hok cap s d by rw [step, hg]; rfl]
      obtain ⟨acc, hpre, hinv, hall, hhs⟩ := feedLoop_inv hp hok cap s d A h hg
      exact ⟨acc, hpre, hinv, hall, hhs, fun h => by cases h⟩
    · rw [show step p hok cap s (.seg d) = s by rw [step, hg]; rfl]
      exact ⟨[], List.nil_prefix, by rw [List.append_nil]; exact h, (fun h' => by rw [hg] at h'; cases h'),
        List.prefix_refl _, fun _ => rfl⟩
  | sync =>
    obtain ⟨hinv, hhs, _⟩ := syncStep_inv hp hok cap s A h.toCore
    exact ⟨[], List.nil_prefix, by simpa [step] using hinv, fun _ => rfl, by simpa [step] using hhs, fun _ => rfl⟩
  | extErr =>
    exact ⟨[], List.nil_prefix, by rw [List.append_nil]; exact h.toCore.error rfl rfl rfl, fun _ => rfl,
      List.prefix_refl _, fun _ => rfl⟩

omit hp in
theorem offered_cons (e : REv) (es : List REv) : offered (e :: es) = offered [e] ++ offered es := by
  cases e <;> simp [offered]

theorem run_inv (es : List REv) : ∀ (s : RState) (A : Bytes), Inv p cap s A →
    ∃ acc, acc <+: offered es ∧ Inv p cap (run p hok cap s es) (A ++ acc) ∧
      ((run p hok cap s es).gap = false → acc = offered es) ∧ s.hs <+: (run p hok cap s es).hs ∧
      (s.gap = true → acc = []) := by
  induction es with
  | nil =>
    intro s A h
    exact ⟨[], List.prefix_refl _, by simpa [run] using h, fun _ => rfl, List.prefix_refl _, fun _ => rfl⟩
  | cons e es ih =>
    intro s A h
    -- `a`: what `e` adds to the accepted stream, `b`: what `es` adds
    obtain ⟨a, aPre, aInv, aAll, aHs, aNone⟩ := step_inv hp hok cap s e A h
    obtain ⟨b, bPre, bInv, bAll, bHs, bNone⟩ := ih _ _ aInv
    refine ⟨a ++ b, ?_, by rw [← List.append_assoc]; exact bInv, fun hgap => ?_, aHs.trans bHs,
      fun hg => by rw [aNone hg, bNone (gap_stays hok cap s e hg)]; rfl⟩
    · -- all of what `e` offers, then a prefix of the rest; or, the gap flag raised, nothing of the rest
      cases hg : (step p hok cap s e).gap
      · rw [offered_cons, aAll hg]; exact (List.prefix_append_right_inj _).mpr bPre
      · rw [bNone hg, List.append_nil, offered_cons]; exact aPre.trans (List.prefix_append _ _)
    · -- the gap flag never goes down again, so it was clear after `e` too
      have hg : (step p hok cap s e).gap = false := by
        cases hg : (step p hok cap s e).gap
        · rfl
        · rw [show (run p hok cap s (e :: es)).gap = true from run_gap_stays hok cap es _ hg] at hgap; cases hgap
      rw [offered_cons, aAll hg, bAll hgap]

theorem run_clean (es : List REv) (h : (run p hok cap {} es).err = false) :
    Inv p cap (run p hok cap {} es) (offered es) := by
  obtain ⟨acc, _, hinv, hall, _, _⟩ := run_inv hp hok cap es {} [] (inv_init hp cap)
  -- a raised gap flag comes with the error flag
  have hg : (run p hok cap {} es).gap = false := by
    cases hg : (run p hok cap {} es).gap
    · rfl
    · have := hinv.gapErr hg; rw [h] at this; cases this
  rw [hall hg] at hinv
  exact hinv

end SuplaVerif.MqttRecv
