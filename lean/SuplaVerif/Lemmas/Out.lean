/-
  Lemmas/Out — conservation of bytes through the OUT half: out queue → proto out buffer →
  send shim → espconn_sent.
-/
import SuplaVerif.Lemmas.Proto
import SuplaVerif.Model.Srpc

namespace SuplaVerif

/-- bytes the TCP layer took (espconn_sent returned 0) -/
def wireOf : List OObs → Bytes
  | [] => []
  | .sent c b :: os => if c = 0 then b ++ wireOf os else wireOf os
  | _ :: os => wireOf os

/-- no loss event: no overflow report and every espconn_sent result is OK or transient -/
def NoLoss : List OObs → Prop
  | [] => True
  | .sent c _ :: os => (c = 0 ∨ c = Io_INPROGRESS ∨ c = Io_MAXNUM) ∧ NoLoss os
  | .log _ :: _ => False
  | .callret _ :: os => NoLoss os

instance NoLoss.dec : (l : List OObs) → Decidable (NoLoss l)
  | [] => isTrue trivial
  | .sent _ _ :: os => by unfold NoLoss; exact @instDecidableAnd _ _ _ (NoLoss.dec os)
  | .log _ :: _ => isFalse (by simp [NoLoss])
  | .callret _ :: os => by unfold NoLoss; exact NoLoss.dec os

@[simp] theorem wireOf_nil : wireOf [] = [] := rfl
@[simp] theorem wireOf_append (a b : List OObs) : wireOf (a ++ b) = wireOf a ++ wireOf b := by
  induction a with
  | nil => rfl
  | cons x xs ih =>
    cases x with
    | sent c d => simp only [List.cons_append, wireOf]; split <;> simp [ih]
    | log c => simp [wireOf, ih]
    | callret r => simp [wireOf, ih]

theorem NoLoss_append (a b : List OObs) : NoLoss (a ++ b) ↔ NoLoss a ∧ NoLoss b := by
  induction a with
  | nil => simp [NoLoss]
  | cons x xs ih =>
    cases x with
    | sent c d => simp [NoLoss, ih, and_assoc]
    | log c => simp [NoLoss]
    | callret r => simp [NoLoss, ih]

/-- what is buffered between the queue and the wire, in transmission order -/
def IoOut.pending (s : IoOut) : Bytes := s.shim ++ s.outb.data ++ Frame.enc s.outQ

/-- what the send shim's functions do, given `d` to send -/
def IoOut.ShimTo (s : IoOut) (d : Bytes) (r : IoOut × List OObs) : Prop :=
  ∃ sh e, r.1 = { s with shim := sh, esp := e } ∧ wireOf r.2 ++ sh = s.shim ++ d

/-- one function of the shim after another -/
theorem IoOut.ShimTo.trans {s : IoOut} {d₁ d₂ : Bytes} {r₁ r₂ : IoOut × List OObs}
    (h₁ : s.ShimTo d₁ r₁) (h₂ : r₁.1.ShimTo d₂ r₂) : s.ShimTo (d₁ ++ d₂) (r₂.1, r₁.2 ++ r₂.2) := by
  obtain ⟨sh₁, e₁, hs₁, hw₁⟩ := h₁
  obtain ⟨sh₂, e₂, hs₂, hw₂⟩ := h₂
  rw [hs₁] at hs₂ hw₂
  refine ⟨sh₂, e₂, hs₂, ?_⟩
  show wireOf (r₁.2 ++ r₂.2) ++ sh₂ = s.shim ++ (d₁ ++ d₂)
  rw [wireOf_append, List.append_assoc, hw₂, ← List.append_assoc, hw₁, List.append_assoc]

theorem IoOut.ShimTo.unchanged {s : IoOut} {d : Bytes} {r : IoOut × List OObs} (h : s.ShimTo d r) :
    r.1.outb = s.outb ∧ r.1.outQ = s.outQ ∧ r.1.nextRr = s.nextRr ∧ r.1.ver = s.ver := by
  obtain ⟨sh, e, hs, _⟩ := h
  rw [hs]
  exact ⟨rfl, rfl, rfl, rfl⟩

/-- the right side is `pending` with `d` inserted behind the shim -/
theorem IoOut.ShimTo.pending {s : IoOut} {d : Bytes} {r : IoOut × List OObs} (h : s.ShimTo d r) :
    wireOf r.2 ++ r.1.pending = s.shim ++ d ++ s.outb.data ++ Frame.enc s.outQ := by
  obtain ⟨sh, e, hs, hw⟩ := h
  rw [hs, ← hw]
  simp only [IoOut.pending, List.append_assoc]

theorem espSent_eq (s : IoOut) (b : Bytes) :
    ∃ c e, s.espSent b = (c, { s with esp := e }, [.sent c b]) := by
  unfold IoOut.espSent
  split
  · exact ⟨0, s.esp, rfl⟩
  · rename_i c cs _; exact ⟨c, cs, rfl⟩

/-- `supla_esp_data_write_append_buffer`: overflow is reported and nothing stored, or `d` is stored
    (within the array, if there is anything to store) -/
theorem shimAppend_cases (P : ProtoParams) (s : IoOut) (d : Bytes) :
    s.shimAppend P d = (s, [.log "SENDOVF"]) ∨
    (s.shimAppend P d = ({ s with shim := s.shim ++ d }, []) ∧
      (d.length > 0 → s.shim.length + d.length ≤ P.sendBuf)) := by
  unfold IoOut.shimAppend
  by_cases h0 : d.length > 0
  · rw [if_pos h0]
    by_cases h1 : s.shim.length + d.length > P.sendBuf
    · rw [if_pos h1]; exact .inl rfl
    · rw [if_neg h1]; exact .inr ⟨rfl, fun _ => by omega⟩
  · rw [if_neg h0, List.eq_nil_of_length_eq_zero (Nat.eq_zero_of_not_pos h0), List.append_nil]
    exact .inr ⟨rfl, fun h => absurd h (Nat.lt_irrefl 0)⟩

theorem shimAppend_eq (P : ProtoParams) (s : IoOut) (d : Bytes) (h : NoLoss (s.shimAppend P d).2) :
    s.shimAppend P d = ({ s with shim := s.shim ++ d }, []) := by
  rcases shimAppend_cases P s d with e | ⟨e, _⟩
  · rw [e] at h; exact h.elim  -- SENDOVF is a loss event
  · exact e

theorem shimAppend_bound (P : ProtoParams) (s : IoOut) (d : Bytes) (h : NoLoss (s.shimAppend P d).2) :
    (s.shimAppend P d).1.shim.length ≤ (if d.length > 0 then P.sendBuf else s.shim.length) := by
  rcases shimAppend_cases P s d with e | ⟨e, hb⟩
  · rw [e] at h; exact h.elim
  · rw [e]
    show (s.shim ++ d).length ≤ _
    rw [List.length_append]
    split
    · exact hb ‹_›
    · omega

theorem retry_spec (s : IoOut) : s.ShimTo [] s.retry := by
  unfold IoOut.retry
  by_cases h0 : s.shim.length > 0
  · rw [if_pos h0]
    obtain ⟨c, e, he⟩ := espSent_eq s s.shim
    rw [he]
    by_cases hc : c = 0
    · exact ⟨[], e, by simp [hc], by simp [wireOf, hc]⟩
    · exact ⟨s.shim, e, by simp [hc], by simp [wireOf, hc]⟩
  · rw [if_neg h0]
    exact ⟨s.shim, s.esp, rfl, by simp⟩

theorem sendOrBuffer_spec (P : ProtoParams) (s : IoOut) (d : Bytes)
    (h : NoLoss (s.sendOrBuffer P d).2) : s.ShimTo d (s.sendOrBuffer P d) := by
  unfold IoOut.sendOrBuffer at h ⊢
  by_cases h0 : s.shim.length > 0
  · -- shim not empty: `d` queues behind it
    rw [if_pos h0] at h ⊢
    rw [shimAppend_eq P s d h]
    exact ⟨_, s.esp, rfl, rfl⟩
  rw [if_neg h0] at h ⊢
  have hsh : s.shim = [] := List.eq_nil_of_length_eq_zero (Nat.eq_zero_of_not_pos h0)
  by_cases hd : d.length > 0
  · rw [if_pos hd] at h ⊢
    obtain ⟨c, e, he⟩ := espSent_eq s d
    rw [he] at h ⊢
    simp only at h ⊢
    by_cases hc : c = Io_INPROGRESS ∨ c = Io_MAXNUM
    · -- transient refusal: `d` waits in the shim
      rw [if_pos hc] at h ⊢
      have hc0 : c ≠ 0 := by rcases hc with h | h <;> rw [h] <;> decide
      rw [shimAppend_eq P _ d ((NoLoss_append _ _).1 h).2]
      exact ⟨_, e, rfl, by simp [wireOf, hc0]⟩
    · -- otherwise 0, as there was no loss event
      rw [if_neg hc] at h ⊢
      have hc0 : c = 0 := h.1.resolve_right hc
      exact ⟨[], e, by simp [hsh], by simp [wireOf, hc0, hsh]⟩
  · rw [if_neg hd]
    exact ⟨s.shim, s.esp, rfl, by simp [List.eq_nil_of_length_eq_zero (Nat.eq_zero_of_not_pos hd)]⟩

theorem dataWrite_shimTo (P : ProtoParams) (s : IoOut) (d : Bytes) (h : NoLoss (s.dataWrite P d).2) :
    s.ShimTo d (s.dataWrite P d) := by
  unfold IoOut.dataWrite at h ⊢
  have h1 := retry_spec s
  generalize s.retry = r1 at h1 h ⊢
  obtain ⟨s1, o1⟩ := r1
  simp only at h ⊢
  have h2 := sendOrBuffer_spec P s1 d ((NoLoss_append _ _).1 h).2
  generalize IoOut.sendOrBuffer P s1 d = r2 at h2 ⊢
  obtain ⟨s2, o2⟩ := r2
  exact IoOut.ShimTo.trans (r₁ := (s1, o1)) (r₂ := (s2, o2)) h1 h2

theorem dataWrite_spec (P : ProtoParams) (s : IoOut) (d : Bytes) (h : NoLoss (s.dataWrite P d).2) :
    wireOf (s.dataWrite P d).2 ++ (s.dataWrite P d).1.pending =
      s.shim ++ d ++ s.outb.data ++ Frame.enc s.outQ :=
  (dataWrite_shimTo P s d h).pending

theorem popOut_spec (P : ProtoParams) (b : AccBuf) (n : Nat) :
    (IoOut.popOut P b n).1 ++ (IoOut.popOut P b n).2.data = b.data := by
  unfold IoOut.popOut
  split <;> simp

/-- the second alternative is the guard under which `queueToBuf` reports OUTAPPERR -/
theorem outAppend_spec (P : ProtoParams) (b : AccBuf) (f : Frame) :
    ((IoOut.outAppend P b f).1 = .ok ∧ (IoOut.outAppend P b f).2.data = b.data ++ f.bytes) ∨
    ((IoOut.outAppend P b f).1 ≠ .ok ∧ (IoOut.outAppend P b f).1 ≠ .false_) := by
  unfold IoOut.outAppend
  split
  · right; simp  -- payload above the maximum
  · rcases AccBuf.append_cases P b (f.header ++ f.payload) with h | ⟨_, h⟩ <;> rw [h]
    · right; simp  -- no room for header and payload
    · simp only
      rcases AccBuf.append_cases P _ TAG with h | ⟨_, h⟩ <;> rw [h]
      · right; simp  -- no room for the end tag
      · left; simp [Frame.bytes]

/-- `queueToBuf` and `outHalf` return (ok, state, observations) -/
theorem queueToBuf_spec (P : ProtoParams) (s : IoOut) (h : NoLoss (s.queueToBuf P).2.2) :
    (s.queueToBuf P).2.2 = [] ∧ (s.queueToBuf P).2.1.pending = s.pending := by
  unfold IoOut.queueToBuf at h ⊢
  cases hq : s.outQ with
  | nil => simp
  | cons f q =>
    simp only [hq] at h ⊢
    have ha := outAppend_spec P s.outb f
    generalize IoOut.outAppend P s.outb f = r at ha h
    obtain ⟨ar, ob⟩ := r
    rcases ha with ⟨h1, h2⟩ | h1
    · simp only at h2
      subst h1
      simp [IoOut.pending, hq, h2, enc_cons]
    · -- OUTAPPERR, a loss event
      rw [if_pos h1] at h
      exact h.elim

theorem bufToWire_spec (P : ProtoParams) (s : IoOut) (h : NoLoss (s.bufToWire P).2) :
    wireOf (s.bufToWire P).2 ++ (s.bufToWire P).1.pending = s.pending := by
  unfold IoOut.bufToWire at h ⊢
  have hp := popOut_spec P s.outb P.chunk
  generalize IoOut.popOut P s.outb P.chunk = r at hp h
  obtain ⟨d, ob⟩ := r
  simp only at hp h ⊢
  by_cases hd : d.length ≠ 0
  · rw [if_pos hd] at h ⊢
    rw [dataWrite_spec P _ d h, IoOut.pending, ← hp]
    simp only [List.append_assoc]
  · -- the out buffer was empty
    rw [if_neg hd]
    rw [List.eq_nil_of_length_eq_zero (Decidable.not_not.1 hd), List.nil_append] at hp
    simp [IoOut.pending, hp]

theorem outHalf_spec (P : ProtoParams) (s : IoOut) (h : NoLoss (s.outHalf P).2.2) :
    wireOf (s.outHalf P).2.2 ++ (s.outHalf P).2.1.pending = s.pending := by
  unfold IoOut.outHalf at h ⊢
  have hq := queueToBuf_spec P s
  generalize s.queueToBuf P = r at hq h
  obtain ⟨ok, s1, o1⟩ := r
  cases ok with
  | false =>
    obtain ⟨ho, hpend⟩ := hq h
    rw [ho, hpend]; rfl
  | true =>
    simp only at hq ⊢
    rw [NoLoss_append] at h
    obtain ⟨ho, hpend⟩ := hq h.1
    rw [ho, List.nil_append, bufToWire_spec P s1 h.2, hpend]

theorem queueToBuf_unchanged (P : ProtoParams) (s : IoOut) :
    (s.queueToBuf P).2.1.shim = s.shim ∧ (s.queueToBuf P).2.1.nextRr = s.nextRr ∧
    (s.queueToBuf P).2.1.ver = s.ver ∧ (s.queueToBuf P).2.1.outQ.length ≤ s.outQ.length := by
  unfold IoOut.queueToBuf
  cases hq : s.outQ with
  | nil => exact ⟨rfl, rfl, rfl, by rw [hq]; exact Nat.le_refl _⟩
  | cons f q =>
    simp only
    split <;> exact ⟨rfl, rfl, rfl, Nat.le_succ _⟩

theorem bufToWire_unchanged (P : ProtoParams) (s : IoOut) (h : NoLoss (s.bufToWire P).2) :
    (s.bufToWire P).1.outQ = s.outQ ∧ (s.bufToWire P).1.nextRr = s.nextRr ∧
    (s.bufToWire P).1.ver = s.ver := by
  unfold IoOut.bufToWire at h ⊢
  generalize IoOut.popOut P s.outb P.chunk = r at h
  obtain ⟨d, ob⟩ := r
  simp only at h ⊢
  by_cases hd : d.length ≠ 0
  · rw [if_pos hd] at h ⊢
    exact (dataWrite_shimTo P _ d h).unchanged.2
  · rw [if_neg hd]; exact ⟨rfl, rfl, rfl⟩

theorem outHalf_unchanged (P : ProtoParams) (s : IoOut) (h : NoLoss (s.outHalf P).2.2) :
    (s.outHalf P).2.1.nextRr = s.nextRr ∧ (s.outHalf P).2.1.ver = s.ver ∧
    (s.outHalf P).2.1.outQ.length ≤ s.outQ.length := by
  unfold IoOut.outHalf at h ⊢
  obtain ⟨_, hn, hv, hl⟩ := queueToBuf_unchanged P s
  generalize s.queueToBuf P = r at hn hv hl h
  obtain ⟨ok, s1, o1⟩ := r
  cases ok with
  | false => exact ⟨hn, hv, hl⟩
  | true =>
    simp only at hn hv hl h ⊢
    obtain ⟨hq, hn2, hv2⟩ := bufToWire_unchanged P s1 ((NoLoss_append _ _).1 h).2
    exact ⟨hn2.trans hn, hv2.trans hv, by rw [hq]; exact hl⟩

end SuplaVerif
