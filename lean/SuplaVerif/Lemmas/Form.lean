/-
  Lemmas/Form — what the operations of the form handler (supla_esp_cfgmode.c) do: `stored` (the terminator rule),
  `strnlen` and `poke` (memcpy into a buffer) in terms of C strings (Base/CStr); `setBit` and `applyField` seen through a mask.
-/
import SuplaVerif.Base.CStr
import SuplaVerif.Model.Form
import SuplaVerif.Model.Cred
import SuplaVerif.Model.FormFlags

namespace SuplaVerif

-- Props/C15 states this as `C15.cstr_eq`
theorem cstr_eq_bytes (b : Bytes) : SuplaVerif.cstr b = Bytes.cstr b := by
  induction b with
  | nil => rfl
  | cons x xs ih => simp only [SuplaVerif.cstr, Bytes.cstr, ih]

theorem stored_eq (size : Nat) (w : Bytes) : stored size w = w.take (size - 1) ++ [0] := by
  unfold stored
  by_cases h : w.length < size
  · rw [if_pos h, List.take_of_length_le (by omega)]
  · rw [if_neg h]

theorem zero_mem_stored (size : Nat) (w : Bytes) : (0 : UInt8) ∈ stored size w := by
  rw [stored_eq]; exact List.mem_append_right _ List.mem_cons_self

theorem length_stored_le (size : Nat) (hs : 0 < size) (w : Bytes) : (stored size w).length ≤ size := by
  rw [stored_eq, List.length_append, List.length_take, List.length_singleton]; omega

theorem strnlen_of_length_le (b : Bytes) (n : Nat) (h : b.length ≤ n) : strnlen b n = (Bytes.cstr b).length := by
  unfold strnlen; rw [List.take_of_length_le h]

/-! `poke` for an offset inside `dst` (the model does not cut `data` at the end of `dst`; its callers do, by `take`) -/

theorem take_poke (dst : Bytes) (off : Nat) (data : Bytes) (h : off ≤ dst.length) : (poke dst off data).take off = dst.take off := by
  unfold poke
  rw [List.append_assoc, List.take_append_of_le_length (by rw [List.length_take]; omega), List.take_take, Nat.min_self]

theorem drop_poke (dst : Bytes) (off : Nat) (data : Bytes) (h : off ≤ dst.length) :
    (poke dst off data).drop off = data ++ dst.drop (off + data.length) := by
  unfold poke
  rw [List.append_assoc, List.drop_append_of_le_length (by rw [List.length_take]; omega),
    List.drop_of_length_le (by rw [List.length_take]; omega), List.nil_append]

theorem length_le_length_poke (dst : Bytes) (off : Nat) (data : Bytes) : dst.length ≤ (poke dst off data).length := by
  unfold poke
  simp only [List.length_append, List.length_take, List.length_drop]; omega

theorem cstr_take_poke (dst d : Bytes) (h : (Bytes.cstr dst).length < dst.length) :
    Bytes.cstr ((poke dst ((Bytes.cstr dst).length + 1) d).take dst.length) = Bytes.cstr dst ∧
    ((poke dst ((Bytes.cstr dst).length + 1) d).take dst.length).length = dst.length := by
  refine ⟨Bytes.cstr_eq_of_take_eq dst _ h ?_, ?_⟩
  · rw [List.take_take, Nat.min_eq_left h, take_poke _ _ _ h]
  · rw [List.length_take]; exact Nat.min_eq_left (length_le_length_poke dst _ d)

theorem prefix_drop_take_poke (dst d : Bytes) (off n : Nat) (h : off ≤ dst.length) (hfit : off + d.length ≤ n) :
    d <+: ((poke dst off d).take n).drop off := by
  rw [List.drop_take, drop_poke _ _ _ h]
  exact List.prefix_take_iff.mpr ⟨List.prefix_append _ _, Nat.le_sub_of_add_le' hfit⟩

/-! `setBit w b false` is `w - (w &&& b)`; core has no lemma on that subtraction, so its bits are computed once. -/

theorem sub_and_halves (w b : Nat) :
    (w - (w &&& b)) / 2 = w / 2 - (w / 2 &&& b / 2) ∧ (w - (w &&& b)) % 2 = w % 2 - (w % 2 &&& b % 2) := by
  have h1 : (w &&& b) / 2 ≤ w / 2 := by rw [Nat.and_div_two]; exact Nat.and_le_left
  have h2 : (w &&& b) % 2 ≤ w % 2 := by rw [← Nat.pow_one 2, Nat.and_mod_two_pow]; exact Nat.and_le_left
  rw [← Nat.and_div_two, ← Nat.pow_one 2, ← Nat.and_mod_two_pow, Nat.pow_one]
  omega

theorem testBit_sub_and (w b j : Nat) : (w - (w &&& b)).testBit j = (w.testBit j && !b.testBit j) := by
  induction j generalizing w b with
  | zero =>
    -- bit 0 is the parity: the four combinations for `w` and `b`
    rw [Nat.testBit_zero, Nat.testBit_zero, Nat.testBit_zero, (sub_and_halves w b).2]
    rcases Nat.mod_two_eq_zero_or_one w with hw | hw <;> rcases Nat.mod_two_eq_zero_or_one b with hb | hb <;>
      rw [hw, hb] <;> rfl
  | succ j ih =>
    -- bit `j + 1` is bit `j` of the half, and the half has the same form
    rw [Nat.testBit_succ, Nat.testBit_succ, Nat.testBit_succ, (sub_and_halves w b).1, ih]

theorem setBit_and (w b m : Nat) (on : Bool) : setBit w b on &&& m = setBit (w &&& m) (b &&& m) on := by
  cases on
  · -- clearing, bit by bit: `(w ∧ ¬b) ∧ m = (w ∧ m) ∧ ¬(b ∧ m)`
    apply Nat.eq_of_testBit_eq
    intro j
    simp only [setBit, Bool.false_eq_true, if_false, Nat.testBit_and, testBit_sub_and]
    cases w.testBit j <;> cases b.testBit j <;> cases m.testBit j <;> rfl
  · exact Nat.and_or_distrib_right w b m

theorem setBit_and_self (w b : Nat) (on : Bool) : setBit w b on &&& b = if on then b else 0 := by
  rw [setBit_and, Nat.and_self]
  -- `setBit` written out for the two values of `on`
  cases on
  · show (w &&& b) - ((w &&& b) &&& b) = 0
    rw [Nat.and_assoc, Nat.and_self, Nat.sub_self]
  · show (w &&& b) ||| b = b
    apply Nat.eq_of_testBit_eq
    intro j
    rw [Nat.testBit_or, Nat.testBit_and]
    cases w.testBit j <;> cases b.testBit j <;> rfl

theorem setBit_and_of_disjoint (w b m : Nat) (on : Bool) (h : b &&& m = 0) : setBit w b on &&& m = w &&& m := by
  rw [setBit_and, h]
  cases on
  · show (w &&& m) - ((w &&& m) &&& 0) = _
    rw [Nat.and_zero, Nat.sub_zero]
  · exact Nat.or_zero _

/-- `applyField_and_of_disjoint b m`: the field that owns bit `b` is not seen under a mask `m` that shares no bit with it
    (for numerals the side condition is decided on the spot) -/
theorem applyField_and_of_disjoint {w : Nat} (b m : Nat) {v : Option Bool} {inv : Bool} (h : b &&& m = 0 := by decide) :
    applyField w b v inv &&& m = w &&& m := by
  cases v with
  | none => rfl
  | some x => exact setBit_and_of_disjoint w b m _ h

end SuplaVerif
