/-
  Lemmas/FbTask — the facade-blind callback (Model/FbTask) through what a blind has in common with a roller shutter (`core`):
  with no task, and the outputs off or no travel time configured for the running direction, it is the roller shutter's
  callback there, and the tilt stays as it is.
-/
import SuplaVerif.Model.FbTask
import SuplaVerif.Lemmas.RsRun
namespace SuplaVerif

/-- the target "keep" (-1) becomes 0, so the task of `s.core` is that of `s` only for targets ≥ 0: every use has no task -/
def FbT.core (s : FbT) : RsT :=
  { pos := s.pos, upT := s.upT, downT := s.downT, rel := s.rel, tstate := s.tstate, target := s.target.toNat, dir := s.dir,
    comm := s.comm, pend := s.pend, sinceStop := s.sinceStop, lag := s.lag }
def FbP.core (P : FbP) : RsP := { fo := P.fo, fc := P.fc, margin := P.margin, inMove := P.inMove }

theorem core_commStep (s : FbT) (dt : Nat) : (fbCommStep s dt).core = commStep s.core dt := by
  unfold fbCommStep commStep
  -- the guards of the two functions are the same up to `core` (`hf`, `hx` restated), and so is each branch
  by_cases hf : s.comm + dt ≥ 200000
  · have hf' : s.core.comm + dt ≥ 200000 := hf
    by_cases hx : s.upT > 600000000 ∨ s.downT > 600000000
    · have hx' : s.core.upT > 600000000 ∨ s.core.downT > 600000000 := hx
      rw [if_pos hf, if_pos hx, if_pos hf', if_pos hx']; rfl  -- the limit cuts the outputs off
    · have hx' : ¬ (s.core.upT > 600000000 ∨ s.core.downT > 600000000) := hx
      rw [if_pos hf, if_neg hx, if_pos hf', if_neg hx']; rfl  -- the block runs, within the limit
  · have hf' : ¬ s.core.comm + dt ≥ 200000 := hf
    rw [if_neg hf, if_neg hf']; rfl  -- the block does not run

theorem fbCommStep_tilt (s : FbT) (dt : Nat) : (fbCommStep s dt).tilt = s.tilt := by
  fun_cases fbCommStep s dt <;> rfl

theorem fbAccount_tstate (P : FbP) (s : FbT) (dt : Nat) : (fbAccount P s dt).tstate = s.tstate := by
  fun_cases fbAccount P s dt <;> rfl

theorem fbTaskStep_idle (P : FbP) (s : FbT) (h : s.tstate = 0) : fbTaskStep P s = s := by
  unfold fbTaskStep; rw [if_pos h]

/-- with a travel time configured this fails: the blind's `movePos` also moves the tilt, which can hold the position back, and
    its end-stop margin test looks at the tilt -/
theorem core_account (up : Bool) (P : FbP) (s : FbT) (dt : Nat)
    (h : s.rel = 0 ∨ (s.rel = dirCode up ∧ P.core.full up = 0)) :
    (fbAccount P s dt).core = account P.core s.core dt ∧ (fbAccount P s dt).tilt = s.tilt := by
  obtain ⟨(hfo : s.rel = 2 → P.fo = 0), (hfc : s.rel = 1 → P.fc = 0)⟩ := nofull_of_dir up P.core h
  unfold fbAccount account
  -- the output that is on has no travel time: `fbCalibrate`/`calibrateStep` are off and `movePos` is the identity, so both sides
  -- are the same record, tilt kept
  by_cases h2 : s.rel = 2 <;> by_cases h1 : s.rel = 1 <;>
    simp [h1, h2, hfo, hfc, FbT.core, FbP.core, fbCalibrate, calibrateStep, FbP.mv, movePos_nofull]

theorem core_tick (up : Bool) (P : FbP) (s : FbT) (dt : Nat) (ht : s.tstate = 0)
    (h : s.rel = 0 ∨ (s.rel = dirCode up ∧ P.core.full up = 0)) :
    (fbTick P s dt).core = rsTick P.core s.core dt ∧ (fbTick P s dt).tilt = s.tilt := by
  obtain ⟨e, et⟩ := core_account up P s dt h
  unfold fbTick
  rw [fbTaskStep_idle P _ ((fbAccount_tstate P s dt).trans ht), core_commStep, e, rsTick_notask _ _ _ ht, fbCommStep_tilt]
  exact ⟨rfl, et⟩

open C10

theorem core_tick_plain (up : Bool) (P : FbP) (hf : P.core.full up = 0) (s : FbT) (dt : Nat) (h : PlainD up s.core) :
    (fbTick P s dt).core = rsTick P.core s.core dt := by
  obtain ⟨hts, _, hrel, _⟩ := h
  exact (core_tick up P s dt hts (hrel.imp id (fun hon => ⟨hon, hf⟩))).1

theorem fb_plain_tickD (up : Bool) (P : FbP) (hf : P.core.full up = 0) (s : FbT) (dt : Nat) (h : PlainD up s.core) :
    PlainFrom up s.core dt (fbTick P s dt).core := by
  rw [core_tick_plain up P hf s dt h]
  exact plain_tickD up P.core hf s.core dt h

theorem fbRun_timed (P : FbP) (J : Nat → Nat → FbT → Prop)
    (step : ∀ T n s dt, J T n s → J (T + dt) (n + 1) (fbTick P s dt)) (dts : List Nat) (s : FbT) (h : J 0 0 s) :
    J (C09.sum dts) dts.length (fbRun P s dts) := by
  rw [run_eq_foldl (fbTick P) (fbRun P) (fun _ => rfl) (fun _ _ _ => rfl), C09.sum_eq]
  exact foldl_timed (fbTick P) J step dts s h

/-- two runs side by side, so by recursion over the callbacks and not through `fbRun_timed` -/
theorem core_run (up : Bool) (P : FbP) (hf : P.core.full up = 0) :
    ∀ (dts : List Nat) (s : FbT), PlainD up s.core → (fbRun P s dts).core = rsRun P.core s.core dts
  | [], _, _ => rfl
  | dt :: dts, s, h => by
    have e := core_tick_plain up P hf s dt h
    show (fbRun P (fbTick P s dt) dts).core = rsRun P.core (rsTick P.core s.core dt) dts  -- both runs, one callback on
    rw [← e]
    exact core_run up P hf dts _ (fb_plain_tickD up P hf s dt h).1

theorem fb_power_limitD (up : Bool) (P : FbP) (hf : P.core.full up = 0) (s : FbT) (dts : List Nat)
    (h0 : s.core.rel = dirCode up ∧ s.core.run up = 0 ∧ s.core.tstate = 0 ∧ s.core.pend = 0 ∧ s.core.comm < 200000) :
    ((fbRun P s dts).rel = dirCode up → C09.sum dts < 600200000) ∧ (600200000 ≤ C09.sum dts → (fbRun P s dts).rel = 0) := by
  have r := power_limitD up P.core hf s.core dts h0
  rwa [← core_run up P hf dts s (plain_start up s.core h0)] at r

theorem fbRelReq_frame (P : FbP) (s : FbT) (w : Nat) :
    (fbRelReq P s w).tstate = s.tstate ∧ (fbRelReq P s w).dir = s.dir ∧ (fbRelReq P s w).target = s.target ∧
    (fbRelReq P s w).ttarget = s.ttarget := by
  unfold fbRelReq  -- cases as at `relReq_frame`
  dsimp only
  split
  · split
    · exact ⟨rfl, rfl, rfl, rfl⟩
    · exact ⟨rfl, rfl, rfl, rfl⟩
  · split
    · exact ⟨rfl, rfl, rfl, rfl⟩
    · exact ⟨rfl, rfl, rfl, rfl⟩

/-- the four stages in sequence; `a`, `du`, `dd` are the corrections of mode 2 (`fbPreTilt`) -/
theorem fbTaskStep_known (P : FbP) (s : FbT) (hts : s.tstate ≠ 0) (hk : known s.pos = true) :
    ∃ a du dd : Int, fbTaskStep P s =
      fbS4 (fbS3 P (fbS2 P (fbS1 P s (s.target * 100) a) (fbRawTilt s) (s.ttarget * 100))
        ((s.pos : Int) - 100) (fbRawTilt s) (s.target * 100) du dd) (fbRawTilt s) (s.ttarget * 100) := by
  unfold fbTaskStep
  rw [if_neg hts, hk]
  exact ⟨_, _, _, rfl⟩

theorem fbS1_skip (P : FbP) (s : FbT) (tp a : Int) (h : s.tstate ≠ 1) : fbS1 P s tp a = s := by
  unfold fbS1; rw [if_neg h]

theorem fbS2_skip (P : FbP) (s : FbT) (rt tt : Int) (h : s.tstate ≠ 2) : fbS2 P s rt tt = s := by
  unfold fbS2; rw [if_neg (fun hh => h hh.1)]

theorem fbS3_skip (P : FbP) (s : FbT) (raw rt tp du dd : Int) (h : s.tstate ≠ 2) : fbS3 P s raw rt tp du dd = s := by
  unfold fbS3; rw [if_neg (fun hh => h hh.1)]

theorem fbS4_skip (s : FbT) (rt tt : Int) (h : s.tstate ≠ 3) : fbS4 s rt tt = s := by
  unfold fbS4; rw [if_neg (fun hh => h hh.1)]

end SuplaVerif
