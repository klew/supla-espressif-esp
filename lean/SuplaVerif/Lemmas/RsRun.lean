/-
  Lemmas/RsRun — runs of the roller-shutter callback in one direction `up` (vocabulary: Lemmas/RsTask): the 10-minute limit of a
  plain move with no travel time configured; a positioning task on its way and from rest.  The suffix `D` marks what Props/C10 states
  once for closing and once for opening under the name without the suffix.  In the namespace of C10, whose statements are written
  with `Stopped`.
-/
import SuplaVerif.Lemmas.RsTask
namespace SuplaVerif.C10
open SuplaVerif.C09 (gone psiD)

/-- last conjunct: while the output is on, the reporting block has not run since the run time passed 600 s -/
def PlainD (up : Bool) (s : RsT) : Prop :=
  s.tstate = 0 ∧ s.pend = 0 ∧ (s.rel = 0 ∨ s.rel = dirCode up) ∧ s.comm < 200000 ∧
  (s.rel = dirCode up → s.run up > 600000000 → s.run up ≤ 600000000 + s.comm)

def PlainFrom (up : Bool) (s : RsT) (T : Nat) (x : RsT) : Prop :=
  PlainD up x ∧ (x.rel = dirCode up → s.rel = dirCode up ∧ x.run up = s.run up + T)

theorem plain_tickD (up : Bool) (P : RsP) (hf : P.full up = 0) (s : RsT) (dt : Nat) (h : PlainD up s) :
    PlainFrom up s dt (rsTick P s dt) := by
  obtain ⟨hts, hpend, hrel, hc, hJ⟩ := h
  rcases hrel with h0 | h1
  · -- output off: nothing switches it on
    rw [rsTick_rest P s dt h0 hpend hts]
    have hne : ¬ s.rel = dirCode up := fun h => dirCode_ne_zero up (h ▸ h0)
    exact ⟨⟨hts, hpend, Or.inl h0, commTimer_lt _ _, fun h => absurd h hne⟩, fun h => absurd h hne⟩
  · -- output on: the run time accumulates, the reporting block may cut it off
    rw [rsTick_notask P s dt hts, account_nofull up P s dt h1 hf]
    obtain ⟨hrun, hud⟩ := RsT.run_withRun s up (s.run up + dt)
    -- what is needed of `s.withRun ..`, stated before `a` hides it
    have frame : (s.withRun up (s.run up + dt)).tstate = s.tstate ∧ (s.withRun up (s.run up + dt)).pend = s.pend ∧
        (s.withRun up (s.run up + dt)).rel = s.rel ∧ (s.withRun up (s.run up + dt)).comm = s.comm := ⟨rfl, rfl, rfl, rfl⟩
    generalize s.withRun up (s.run up + dt) = a at *
    obtain ⟨ats, apend, arel, acomm⟩ := frame
    by_cases hcut : a.comm + dt ≥ 200000 ∧ (a.upT > 600000000 ∨ a.downT > 600000000)
    · rw [commStep_cut a dt hcut.1 hcut.2]
      have hne : ¬ (0 : Nat) = dirCode up := fun h => dirCode_ne_zero up h.symm
      exact ⟨⟨ats ▸ hts, rfl, Or.inl rfl, (by decide : 0 < 200000), fun h => absurd h hne⟩, fun h => absurd h hne⟩
    · rw [commStep_quiet a dt (Or.inr hcut)]
      refine ⟨⟨ats ▸ hts, apend ▸ hpend, Or.inr (arel ▸ h1), commTimer_lt _ _, fun _ h2 => ?_⟩, fun _ => ⟨h1, hrun⟩⟩
      -- not cut: either the block has not run and the excess over 600 s grows with its timer (`hJ`), or the run time is within
      -- 600 s; `omega` does not reduce the projections of `{ a with comm := _ }` in the goal
      show a.run up ≤ 600000000 + (if a.comm + dt ≥ 200000 then 0 else a.comm + dt)
      split <;> omega

theorem plain_runD (up : Bool) (P : RsP) (hf : P.full up = 0) (dts : List Nat) (s : RsT) (h : PlainD up s) :
    PlainFrom up s (C09.sum dts) (rsRun P s dts) := by
  refine rsRun_timed P (fun T _ x => PlainFrom up s T x) ?_ dts s ⟨h, fun h1 => ⟨h1, rfl⟩⟩
  intro T _ x dt ⟨hx, hsince⟩
  obtain ⟨hx', hon⟩ := plain_tickD up P hf x dt hx
  refine ⟨hx', fun h => ?_⟩
  obtain ⟨xon, xrun⟩ := hon h
  obtain ⟨son, srun⟩ := hsince xon
  exact ⟨son, by rw [xrun, srun, Nat.add_assoc]⟩

theorem plain_start (up : Bool) (s : RsT)
    (h0 : s.rel = dirCode up ∧ s.run up = 0 ∧ s.tstate = 0 ∧ s.pend = 0 ∧ s.comm < 200000) : PlainD up s := by
  obtain ⟨hrel, hrun, hts, hpend, hc⟩ := h0
  exact ⟨hts, hpend, Or.inr hrel, hc, fun _ h => by omega⟩

theorem power_limitD (up : Bool) (P : RsP) (hf : P.full up = 0) (s : RsT) (dts : List Nat)
    (h0 : s.rel = dirCode up ∧ s.run up = 0 ∧ s.tstate = 0 ∧ s.pend = 0 ∧ s.comm < 200000) :
    ((rsRun P s dts).rel = dirCode up → C09.sum dts < 600200000) ∧ (600200000 ≤ C09.sum dts → (rsRun P s dts).rel = 0) := by
  obtain ⟨⟨_, _, hrel, hc, hJ⟩, hr⟩ := plain_runD up P hf dts s (plain_start up s h0)
  obtain ⟨_, hrun0, _⟩ := h0
  -- still on: the run time is the sum (`hr`, `hrun0`), and it is at most 600 s + the block's timer (`hJ`, `hc`), below 600.2 s
  have key : (rsRun P s dts).rel = dirCode up → C09.sum dts < 600200000 := fun h1 => by omega
  exact ⟨key, fun hT => hrel.elim id (fun h => by have := key h; omega)⟩

/-- the task has switched the motor off (it finishes at the next callback) or has finished -/
def Stopped (s : RsT) : Prop :=
  s.rel = 0 ∧ s.pend = 0 ∧ 100 ≤ s.pos ∧ s.pos ≤ 10100 ∧ (s.tstate = 0 ∨ (s.tstate = 2 ∧ s.dir = 0))

def MovD (up : Bool) (s : RsT) : Prop :=
  s.tstate = 2 ∧ s.dir = dirCode up ∧ s.rel = dirCode up ∧ s.pend = 0 ∧ 100 ≤ s.pos ∧ s.pos ≤ 10100

theorem not_stopped_moving {up : Bool} {s : RsT} (hs : Stopped s) (hm : MovD up s) : False := by
  obtain ⟨off, _⟩ := hs
  obtain ⟨_, _, on, _⟩ := hm
  exact dirCode_ne_zero up (on.symm.trans off)

/-- Ψ of C09 (`psiD`) on the estimated position and the run time of the direction -/
def psiT (up : Bool) (P : RsP) (s : RsT) : Nat := gone up s.pos * (P.full up * 1000) + 10000 * s.run up

/-- below one position unit's worth short of the end stop, below the task's margin at it (`inMargin_bound`:
    `t < 10·F·M + 10`, rounded up to `10·F·(M + 1)`) -/
def CarryOkD (up : Bool) (P : RsP) (s : RsT) : Prop :=
  10000 * s.run up < P.full up * 1000 + 10000 + 100000 * P.full up * (taskMargin P + 1)

/-- the bound of `CarryOkD` stays below the 10-minute limit, so that the reporting block never cuts a task off -/
def Fits (up : Bool) (P : RsP) : Prop :=
  10 ≤ P.full up ∧ P.full up / 10 + 1 + 10 * P.full up * (taskMargin P + 1) ≤ 600000000

/-- the largest distance gone (`gone false p = p ≤ 10100` keeps the offset 100, `gone true p ≤ 10000`) plus the bound of
    `CarryOkD` -/
def psiCap (up : Bool) (P : RsP) : Nat :=
  (if up then 10000 else 10100) * (P.full up * 1000) + P.full up * 1000 + 10000 + 100000 * P.full up * (taskMargin P + 1)

theorem carry_cap {F M t : Nat} (hF : 10 ≤ F) (h : 10000 * t < F * 1000 + 10000 ∨ t < 10 * F * M + 10) :
    t ≤ F / 10 + 1 + 10 * F * (M + 1) ∧ 10000 * t < F * 1000 + 10000 + 100000 * F * (M + 1) := by
  have e : 100000 * F * (M + 1) = 10000 * (10 * F * (M + 1)) := by rw [← Nat.mul_assoc, ← Nat.mul_assoc]
  have : 10 * F * M + 10 * F = 10 * F * (M + 1) := by rw [Nat.mul_add]; simp
  omega

theorem account_movD (up : Bool) (P : RsP) (hf : 10 ≤ P.full up) (s : RsT) (dt : Nat) (h : MovD up s) :
    let a := account P s dt
    MovD up a ∧ a.target = s.target ∧
    ((a.upT = a.run up ∧ a.downT = 0) ∨ (a.upT = 0 ∧ a.downT = a.run up)) ∧
    gone up s.pos ≤ gone up a.pos ∧ psiT up P s + 10000 * dt ≤ psiT up P a ∧
    (gone up a.pos - gone up s.pos) * (P.full up * 1000) ≤ 10000 * s.run up + 10000 * dt + 10000 ∧
    (0 < remaining up a.pos → 10000 * a.run up < P.full up * 1000 + 10000) := by
  obtain ⟨hts, hdir, hrel, hpend, hk⟩ := h
  obtain ⟨lo, hi, hgone, hlow, hupp, hcarry⟩ :=
    C09.tick_psi (P.full up) hf up { pos := s.pos, tilt := 0, time := s.run up } dt hk
  dsimp only
  rw [account_task up P s dt hrel (by omega) hk]
  generalize mvTick (C09.rsCfg (P.full up) up) { pos := s.pos, tilt := 0, time := s.run up } dt = m at *
  obtain ⟨hrun, hud⟩ := RsT.run_withRun { s with pos := m.pos } up m.time
  unfold psiT
  rw [hrun]
  simp only [psiD] at hlow hupp
  -- reassociated to `_ < gone s · F + (..)`, the shape `sub_mul_le` takes
  rw [Nat.add_assoc, Nat.add_assoc] at hupp
  exact ⟨⟨hts, hdir, hrel, hpend, lo, hi⟩, rfl, hud, hgone, hlow, Nat.add_assoc _ _ _ ▸ C09.sub_mul_le hupp, hcarry⟩

theorem mov_tickD (up : Bool) (P : RsP) (hP : Fits up P) (s : RsT) (dt : Nat) (h : MovD up s) (htg : TgOk up s.target)
    (h100 : s.target ≤ 100) :
    let s' := rsTick P s dt
    s'.target = s.target ∧
    ((Stopped s' ∧ beyondTg up s'.pos s.target ∧
        (gone up s'.pos - gone up s.pos) * (P.full up * 1000) ≤ 10000 * s.run up + 10000 * dt + 10000 ∧
        gone up s.pos ≤ gone up s'.pos) ∨
     (MovD up s' ∧ CarryOkD up P s' ∧ psiT up P s + 10000 * dt ≤ psiT up P s' ∧ gone up s.pos ≤ gone up s'.pos)) := by
  obtain ⟨hF, hcap⟩ := hP
  obtain ⟨hMa, htarget, hud, hgone, hpsi, htrav, hcarry⟩ := account_movD up P hF s dt h
  dsimp only [rsTick]
  generalize account P s dt = a at *
  have ⟨ats, adir, _, _, alo, ahi⟩ := hMa
  rw [taskStep_moving up P a ats adir ⟨alo, ahi⟩ (htarget ▸ htg)]
  by_cases hstop : beyondTg up a.pos a.target ∧
      ¬ (remaining up a.pos = 0 ∧ inMargin (P.full up) (a.run up) (taskMargin P) = true)
  · -- at or beyond the target: the motor is switched off
    rw [if_pos hstop, commStep_quiet _ dt (Or.inl ⟨rfl, rfl⟩)]
    exact ⟨htarget, Or.inl ⟨⟨rfl, rfl, alo, ahi, Or.inr ⟨ats, rfl⟩⟩, htarget ▸ hstop.1, htrav, hgone⟩⟩
  · -- keeps running: before the target with less than a unit's worth carried, or inside the task's margin at the end stop
    have hrun : 10000 * a.run up < P.full up * 1000 + 10000 ∨ a.run up < 10 * P.full up * taskMargin P + 10 := by
      by_cases hb : beyondTg up a.pos a.target
      · exact Or.inr (inMargin_bound _ _ _ (Decidable.not_not.mp (fun hm => hstop ⟨hb, hm⟩)).2)
      · exact Or.inl (hcarry (not_beyondTg up a.pos a.target (htarget ▸ h100) hb))
    obtain ⟨hle, hok⟩ := carry_cap (M := taskMargin P) hF hrun
    rw [if_neg hstop, commStep_quiet a dt (Or.inr (by omega))]  -- `hud`, `hle`, `hcap`: neither run time is over 600 s
    exact ⟨htarget, Or.inr ⟨hMa, hok, hpsi, hgone⟩⟩

/-- Props/C10 states it as `task_finishes` -/
theorem stopped_tick (P : RsP) (s : RsT) (dt : Nat) (h : Stopped s) :
    Stopped (rsTick P s dt) ∧ (rsTick P s dt).tstate = 0 ∧ (rsTick P s dt).pos = s.pos := by
  obtain ⟨hrel, hpend, hlo, hhi, hst⟩ := h
  rcases hst with h0 | ⟨h2, hd⟩
  · rw [rsTick_rest P s dt hrel hpend h0]
    exact ⟨⟨hrel, hpend, hlo, hhi, Or.inl h0⟩, h0, rfl⟩
  · unfold rsTick
    rw [account_off P s dt hrel,
      taskStep_done P { s with upT := 0, downT := 0, sinceStop := s.sinceStop + dt } h2 hd (known_of_range s.pos ⟨hlo, hhi⟩),
      commStep_quiet _ dt (Or.inl ⟨rfl, rfl⟩)]
    exact ⟨⟨rfl, rfl, hlo, hhi, Or.inl rfl⟩, rfl, rfl⟩

def MovInv (up : Bool) (P : RsP) (s : RsT) (T n : Nat) (x : RsT) : Prop :=
  gone up s.pos ≤ gone up x.pos ∧
  ((Stopped x ∧ beyondTg up x.pos s.target) ∨
   (MovD up x ∧ x.target = s.target ∧ psiT up P s + 10000 * T ≤ psiT up P x ∧ (0 < n → CarryOkD up P x)))

theorem mov_runD (up : Bool) (P : RsP) (hP : Fits up P) (dts : List Nat) (s : RsT) (h : MovD up s) (htg : TgOk up s.target)
    (h100 : s.target ≤ 100) : MovInv up P s (C09.sum dts) dts.length (rsRun P s dts) := by
  refine rsRun_timed P (MovInv up P s) (fun T n x dt ⟨hgone, hx⟩ => ?_) dts s
    ⟨Nat.le_refl _, Or.inr ⟨h, rfl, Nat.le_refl _, fun h => absurd h (Nat.lt_irrefl 0)⟩⟩
  rcases hx with ⟨hst, hb⟩ | ⟨hmv, htarget, hpsi, _⟩
  · obtain ⟨hst', _, hpos⟩ := stopped_tick P x dt hst
    exact ⟨hpos ▸ hgone, Or.inl ⟨hst', hpos ▸ hb⟩⟩
  · obtain ⟨htarget', hstep⟩ := mov_tickD up P hP x dt hmv (htarget ▸ htg) (htarget ▸ h100)
    rcases hstep with ⟨hst', hb, _, hgone'⟩ | ⟨hmv', hok, hpsi', hgone'⟩
    · exact ⟨Nat.le_trans hgone hgone', Or.inl ⟨hst', htarget ▸ hb⟩⟩
    · exact ⟨Nat.le_trans hgone hgone', Or.inr ⟨hmv', htarget'.trans htarget, by omega, fun _ => hok⟩⟩

theorem convergesD (up : Bool) (P : RsP) (hP : Fits up P) (s : RsT) (h : MovD up s) (htg : TgOk up s.target)
    (h100 : s.target ≤ 100) (dts : List Nat) (hne : dts ≠ []) (hlong : psiCap up P ≤ psiT up P s + 10000 * C09.sum dts) :
    Stopped (rsRun P s dts) ∧ beyondTg up (rsRun P s dts).pos s.target ∧ gone up s.pos ≤ gone up (rsRun P s dts).pos := by
  obtain ⟨hgone, ⟨hst, hb⟩ | ⟨hmv, _, hpsi, hok⟩⟩ := mov_runD up P hP dts s h htg h100
  · exact ⟨hst, hb, hgone⟩
  · exfalso
    obtain ⟨_, _, _, _, hknown⟩ := hmv
    have hok := hok (List.length_pos_iff.mpr hne)
    have := Nat.mul_le_mul_right (P.full up * 1000) (C09.gone_le up (rsRun P s dts).pos hknown)
    unfold CarryOkD at hok
    unfold psiT at hpsi hlong
    unfold psiCap at hlong
    omega

theorem task_startD (up : Bool) (P : RsP) (s : RsT) (dt : Nat)
    (h0 : s.tstate = 1 ∧ s.rel = 0 ∧ s.pend = 0 ∧ 100 ≤ s.pos ∧ s.pos ≤ 10100 ∧ s.sinceStop ≥ startGate + s.lag)
    (hb : beforeTg up s.pos s.target) (hg : ¬ (P.margin = 0 ∧ reportedPos s.pos = if up then 0 else 100)) :
    MovD up (rsTick P s dt) ∧ (rsTick P s dt).pos = s.pos ∧ (rsTick P s dt).run up = 0 ∧
    (rsTick P s dt).target = s.target := by
  obtain ⟨hts, hrel, _, hlo, hhi, hss⟩ := h0
  rw [rsTick_start up P s dt hts hrel ⟨hlo, hhi⟩ hb, if_neg (by omega), guardOn_pass up P s hg]
  exact ⟨⟨rfl, rfl, rfl, rfl, hlo, hhi⟩, rfl, RsT.run_zero up _ rfl rfl, rfl⟩

theorem task_start_parkedD (up : Bool) (P : RsP) (s : RsT) (dt : Nat)
    (h0 : s.tstate = 1 ∧ s.rel = 0 ∧ s.pend = 0 ∧ 100 ≤ s.pos ∧ s.pos ≤ 10100 ∧ s.sinceStop + dt < startGate + s.lag)
    (hb : beforeTg up s.pos s.target) (hg : ¬ (P.margin = 0 ∧ reportedPos s.pos = if up then 0 else 100)) :
    (rsTick P s dt).rel = 0 ∧ (rsTick P s dt).pend = dirCode up ∧
    MovD up (fireTrig P (rsTick P s dt)) ∧ (fireTrig P (rsTick P s dt)).pos = s.pos ∧
    (fireTrig P (rsTick P s dt)).run up = 0 ∧ (fireTrig P (rsTick P s dt)).target = s.target := by
  obtain ⟨hts, hrel, _, hlo, hhi, hss⟩ := h0
  rw [rsTick_start up P s dt hts hrel ⟨hlo, hhi⟩ hb, if_pos hss, fireTrig_some P _ (dirCode_ne_zero up)]
  exact ⟨hrel, rfl, ⟨rfl, rfl, guardOn_pass up P _ hg, rfl, hlo, hhi⟩, rfl, RsT.run_zero up _ rfl rfl, rfl⟩

theorem from_restD (up : Bool) (P : RsP) (hP : Fits up P) (s s1 : RsT) (dts : List Nat)
    (hm : MovD up s1 ∧ s1.pos = s.pos ∧ s1.run up = 0 ∧ s1.target = s.target) (htg : TgOk up s.target)
    (h100 : s.target ≤ 100) (hne : dts ≠ [])
    (hlong : psiCap up P ≤ gone up s.pos * (P.full up * 1000) + 10000 * C09.sum dts) :
    Stopped (rsRun P s1 dts) ∧ beyondTg up (rsRun P s1 dts).pos s.target ∧ gone up s.pos ≤ gone up (rsRun P s1 dts).pos := by
  obtain ⟨hm, hpos, hrun, htarget⟩ := hm
  have r := convergesD up P hP s1 hm (htarget ▸ htg) (htarget ▸ h100) dts hne
    (by unfold psiT; rw [hpos, hrun]; exact hlong)
  rwa [htarget, hpos] at r

theorem stopped_up {p tg : Nat} {q : RsT} (hp : p ≤ 10100)
    (r : Stopped q ∧ beyondTg true q.pos tg ∧ gone true p ≤ gone true q.pos) :
    Stopped q ∧ q.pos - 100 ≤ tg * 100 ∧ q.pos ≤ p := by
  obtain ⟨hst, hb, hgone⟩ := r
  have ⟨_, _, _, hhi, _⟩ := hst
  exact ⟨hst, hb, (C09.gone_up_sub hp hhi hgone).1⟩

end SuplaVerif.C10
