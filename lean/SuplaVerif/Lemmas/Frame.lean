/-
  Lemmas/Frame — the wire grammar: `parseHead` recognises exactly the encodings of valid
  frames (soundness + completeness), so the greedy frame list of `Frame.enc fs ++ tail` starts with `fs`.
-/
import SuplaVerif.Model.FrameSpec

namespace SuplaVerif
open Bytes

theorem Frame.header_length (f : Frame) : f.header.length = 18 := by
  simp [Frame.header, TAG_length, toLe32_length]

theorem Frame.bytes_length (f : Frame) : f.bytes.length = 23 + f.payload.length := by
  simp [Frame.bytes, Frame.header_length, TAG_length]; omega

/- What each verdict of `parseHead` establishes.  Its branches in the order of its text: 1 fewer than
   five bytes, 2 wrong begin tag, 3 header incomplete, 4 version out of range, 5 size above the maximum,
   6 packet incomplete, 7 wrong end tag, 8 frame; those with another verdict go by `cases h`. -/
theorem parseHead_frame_inv (P : ProtoParams) (d : Bytes) (f : Frame) (rest : Bytes)
    (h : parseHead P d = .frame f rest) :
    5 ≤ d.length ∧ d.take 5 = TAG ∧ P.hdr ≤ d.length - 5 ∧
    ¬((d.getD 5 0).toNat > P.ver ∨ (d.getD 5 0).toNat < P.verMin) ∧
    le32 (d.drop 14) ≤ P.maxData ∧ P.hdr + le32 (d.drop 14) + 5 ≤ d.length ∧
    (d.drop (P.hdr + le32 (d.drop 14))).take 5 = TAG ∧
    f = { ver := (d.getD 5 0).toNat, rrId := le32 (d.drop 6), callId := le32 (d.drop 10),
          payload := (d.drop P.hdr).take (le32 (d.drop 14)) } ∧
    rest = d.drop (P.hdr + le32 (d.drop 14) + 5) := by
  revert h
  fun_cases parseHead P d <;> intro h <;> cases h
  case case8 h5 ht hh hv hds hlen hend =>
    exact ⟨by omega, Decidable.of_not_not ht, by omega, hv, by omega, by omega, Decidable.of_not_not hend, rfl, rfl⟩

theorem parseHead_needMore_inv (P : ProtoParams) (d : Bytes) (h : parseHead P d = .needMore) :
    d.length < 5 ∨ (5 ≤ d.length ∧ d.take 5 = TAG ∧ d.length - 5 < P.hdr) ∨
    (5 ≤ d.length ∧ d.take 5 = TAG ∧ P.hdr ≤ d.length - 5 ∧
      ¬((d.getD 5 0).toNat > P.ver ∨ (d.getD 5 0).toNat < P.verMin) ∧
      le32 (d.drop 14) ≤ P.maxData ∧ P.hdr + le32 (d.drop 14) + 5 > d.length) := by
  revert h
  fun_cases parseHead P d <;> intro h <;> cases h
  case case1 h5 => exact .inl h5
  case case3 h5 ht hh => exact .inr (.inl ⟨by omega, Decidable.of_not_not ht, hh⟩)
  case case6 h5 ht hh hv hds hlen =>
    exact .inr (.inr ⟨by omega, Decidable.of_not_not ht, by omega, hv, by omega, hlen⟩)

theorem parseHead_bad_inv (P : ProtoParams) (d : Bytes) (h : parseHead P d = .bad) :
    (5 ≤ d.length ∧ d.take 5 ≠ TAG) ∨
    (5 ≤ d.length ∧ d.take 5 = TAG ∧ P.hdr ≤ d.length - 5 ∧
      ¬((d.getD 5 0).toNat > P.ver ∨ (d.getD 5 0).toNat < P.verMin) ∧
      (le32 (d.drop 14) > P.maxData ∨
       (le32 (d.drop 14) ≤ P.maxData ∧ P.hdr + le32 (d.drop 14) + 5 ≤ d.length ∧
        (d.drop (P.hdr + le32 (d.drop 14))).take 5 ≠ TAG))) := by
  revert h
  fun_cases parseHead P d <;> intro h <;> cases h
  case case2 h5 ht => exact .inl ⟨by omega, ht⟩
  case case5 h5 ht hh hv hds =>
    exact .inr ⟨by omega, Decidable.of_not_not ht, by omega, hv, .inl hds⟩
  case case7 h5 ht hh hv hds hlen hend =>
    exact .inr ⟨by omega, Decidable.of_not_not ht, by omega, hv, .inr ⟨by omega, by omega, hend⟩⟩

theorem parseHead_badVersion_inv (P : ProtoParams) (d : Bytes) (h : parseHead P d = .badVersion) :
    5 ≤ d.length ∧ d.take 5 = TAG ∧ P.hdr ≤ d.length - 5 ∧
      ((d.getD 5 0).toNat > P.ver ∨ (d.getD 5 0).toNat < P.verMin) := by
  revert h
  fun_cases parseHead P d <;> intro h <;> cases h
  case case4 h5 ht hh hv => exact ⟨by omega, Decidable.of_not_not ht, by omega, hv⟩
theorem parseHead_sound (P : ProtoParams) (hP : P.WF) (d : Bytes) (f : Frame) (rest : Bytes)
    (h : parseHead P d = .frame f rest) : d = f.bytes ++ rest ∧ f.Valid P := by
  obtain ⟨h5, ht, hh, hv, hds, hlen, hend, rfl, rfl⟩ := parseHead_frame_inv P d f rest h
  rw [hP.hdr18] at hh hlen hend ⊢
  have hpl : ((d.drop 18).take (le32 (d.drop 14))).length = le32 (d.drop 14) := by
    rw [List.length_take, List.length_drop]; omega
  constructor
  · -- the image is `d` cut at 5, 6, 10, 14, 18, 18 + n and 18 + n + 5
    simp only [Frame.bytes, Frame.header, hpl, List.append_assoc]
    -- the second `TAG` is the end tag; the first goes by `← ht` below
    rw (occs := .pos [2]) [← hend]
    rw [← ht, toLe32_le32 _ (by rw [List.length_drop]; omega), toLe32_le32 _ (by rw [List.length_drop]; omega),
      toLe32_le32 _ (by rw [List.length_drop]; omega), UInt8.ofNat_toNat,
      take_drop_append_drop d _ 5 _ rfl, take_drop_append_drop d 18 _ _ rfl,
      take_drop_append_drop d 14 4 18 rfl, take_drop_append_drop d 10 4 14 rfl,
      take_drop_append_drop d 6 4 10 rfl, List.singleton_append, getD_cons_drop d 5 (by omega),
      List.take_append_drop]
  · have := (d.getD 5 0).toNat_lt
    have := le32_lt (d.drop 6)
    have := le32_lt (d.drop 10)
    unfold Frame.Valid U32
    simp only
    omega

theorem Frame.bytes_append (f : Frame) (rest : Bytes) :
    f.bytes ++ rest = 83 :: 85 :: 80 :: 76 :: 65 :: UInt8.ofNat f.ver ::
      (toLe32 f.rrId ++ (toLe32 f.callId ++ (toLe32 f.payload.length ++ (f.payload ++ (TAG ++ rest))))) := by
  simp [Frame.bytes, Frame.header, TAG]

theorem decodeSdp_bytes (P : ProtoParams) (hP : P.WF) (f : Frame) (hf : f.Valid P) (rest : Bytes) :
    le32 ((f.bytes ++ rest).drop 14) = f.payload.length ∧ decodeSdp P (f.bytes ++ rest) = f := by
  obtain ⟨_, _, hver, hrr, hcall, hlen⟩ := hf
  have hds : le32 ((f.bytes ++ rest).drop 14) = f.payload.length := by
    rw [Frame.bytes_append]
    exact le32_toLe32 _ (by have := hP.maxLt; unfold U32 at this; omega) _
  refine ⟨hds, ?_⟩
  unfold decodeSdp
  rw [hds, hP.hdr18, Frame.bytes_append]
  -- on the cons form `getD` and the `drop`s compute; `show` states the outcome
  show Frame.mk (UInt8.ofNat f.ver).toNat (le32 (toLe32 f.rrId ++ _)) (le32 (toLe32 f.callId ++ _))
    ((f.payload ++ _).take f.payload.length) = f
  rw [u8_ofNat_toNat _ hver, le32_toLe32 _ hrr, le32_toLe32 _ hcall, List.take_left' rfl]

theorem parseHead_complete (P : ProtoParams) (hP : P.WF) (f : Frame) (hf : f.Valid P) (rest : Bytes) :
    parseHead P (f.bytes ++ rest) = .frame f rest := by
  have h18 := hP.hdr18
  obtain ⟨hds, hdec⟩ := decodeSdp_bytes P hP f hf rest
  obtain ⟨hvmin, hvmax, hv256, _, _, hlen⟩ := hf
  have hl : (f.bytes ++ rest).length = 23 + f.payload.length + rest.length := by
    rw [List.length_append, Frame.bytes_length]
  have hver : ((f.bytes ++ rest).getD 5 0).toNat = f.ver := by
    rw [Frame.bytes_append]; exact u8_ofNat_toNat _ hv256
  have hend : (f.bytes ++ rest).drop (18 + f.payload.length) = TAG ++ rest := by
    rw [← List.drop_drop, Frame.bytes_append]; exact List.drop_left (l₁ := f.payload)
  have htag : (f.bytes ++ rest).take 5 = TAG := by rw [Frame.bytes_append]; rfl
  unfold parseHead
  rw [if_neg (by omega), if_neg (not_not_intro htag), if_neg (by omega), if_neg (by rw [hver]; omega),
    if_neg (by rw [hds]; omega), if_neg (by rw [hds]; omega),
    if_neg (not_not_intro (by rw [hds, h18, hend]; exact List.take_left' rfl))]
  exact congr (congrArg Head.frame hdec) (by rw [hds, h18, ← List.drop_drop, hend]; exact List.drop_left' rfl)

theorem enc_cons (f : Frame) (q : List Frame) : Frame.enc (f :: q) = f.bytes ++ Frame.enc q := rfl

theorem enc_single (f : Frame) : Frame.enc [f] = f.bytes := by simp [Frame.enc]

theorem enc_append (a b : List Frame) : Frame.enc (a ++ b) = Frame.enc a ++ Frame.enc b := by
  simp [Frame.enc]

theorem goodFramesFuel_enc (P : ProtoParams) (hP : P.WF) (fs : List Frame) (hv : ∀ f ∈ fs, f.Valid P)
    (tail : Bytes) (n : Nat) (hn : fs.length ≤ n) :
    goodFramesFuel P n (Frame.enc fs ++ tail) = fs ++ goodFramesFuel P (n - fs.length) tail := by
  induction fs generalizing n with
  | nil => simp [Frame.enc]
  | cons f fs ih =>
    cases n with
    | zero => simp at hn
    | succ n =>
      rw [enc_cons, List.append_assoc]
      simp only [goodFramesFuel]
      rw [parseHead_complete P hP f (hv f (by simp)) _]
      simp only
      rw [ih (fun g hg => hv g (by simp [hg])) n (by simpa using hn)]
      simp

theorem enc_length_ge (fs : List Frame) : fs.length ≤ (Frame.enc fs).length := by
  induction fs with
  | nil => simp
  | cons f fs ih =>
    rw [enc_cons, List.length_append, Frame.bytes_length]
    simp only [List.length_cons]; omega

end SuplaVerif
