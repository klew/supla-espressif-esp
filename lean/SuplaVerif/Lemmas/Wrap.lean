/-
  Lemmas/Wrap — unsigned 32-bit arithmetic on readings of the free-running counter (Model/Uptime): the difference of two
  readings is the elapsed time modulo 2^32, whatever the counter held at boot and wherever it wrapped; and `toU32`
  (Model/KeepAlive), an `int` converted to unsigned, on numbers that fit.
-/
import SuplaVerif.Model.KeepAlive
namespace SuplaVerif

theorem subw_add_left (a d : Nat) : subw ((a + d) % W32) a = d % W32 := by
  unfold subw W32; omega

theorem cnt_lt (boot t : Nat) : cnt boot t < W32 := Nat.mod_lt _ (by decide)

theorem cnt_add (boot t d : Nat) : cnt boot (t + d) = (cnt boot t + d) % W32 := by
  unfold cnt; rw [Nat.mod_add_mod, Nat.add_assoc]

theorem subw_cnt (boot t d : Nat) : subw (cnt boot (t + d)) (cnt boot t) = d % W32 := by
  unfold cnt subw
  rw [Nat.mod_mod, ← Nat.add_assoc]   -- `subw` reduces its second argument itself
  exact subw_add_left (boot + t) d

theorem cnt_step (boot t d : Nat) (hd : d < W32) :
    (cnt boot t ≤ cnt boot (t + d) ∧ cnt boot (t + d) = cnt boot t + d) ∨
    (cnt boot (t + d) < cnt boot t ∧ cnt boot (t + d) + W32 = cnt boot t + d) := by
  unfold cnt W32 at *; omega

theorem toU32_natCast (n : Nat) (h : n < W32) : toU32 (n : Int) = n := by
  unfold toU32
  rw [Int.emod_eq_of_lt (Int.natCast_nonneg n) (Int.ofNat_lt.mpr h)]
  rfl

theorem toU32_add (T a : Nat) (h : T + a < W32) : toU32 ((T : Int) + a) = T + a := by
  rw [← Int.natCast_add, toU32_natCast _ h]

theorem toU32_sub (T p : Nat) (hp : p ≤ T) (h : T < W32) : toU32 ((T : Int) - p) = T - p := by
  rw [← Int.natCast_sub hp, toU32_natCast _ (Nat.lt_of_le_of_lt (Nat.sub_le T p) h)]

end SuplaVerif
