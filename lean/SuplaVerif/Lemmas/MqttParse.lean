/-
  Lemmas/MqttParse — the byte-level parser `MqttRecv.parse` (mqtt_unpack_response) satisfies `ParserOK`:
  a result other than "need more" never changes when more bytes arrive, and a packet lies inside the bytes.
-/
import SuplaVerif.Model.MqttRecv
namespace SuplaVerif.MqttRecv
open Bytes

-- cases of `remLen`: 1 no fuel, 2 a fifth length byte (both invalid), 3 out of bytes (need more), 4 continuation byte, 5 last byte
theorem remLen_append (b x : Bytes) (fuel i shift acc : Nat) (r : Option (Nat × Nat)) :
    remLen b fuel i shift acc = some r → remLen (b ++ x) fuel i shift acc = some r := by
  fun_induction remLen b fuel i shift acc with
  | case1 | case2 => intro h; exact h
  | case3 => intro h; cases h
  | case4 fuel i shift acc hs hi c acc' hc ih =>
    intro h
    rw [remLen, if_neg hs, if_neg (by rw [List.length_append]; omega), getD_append_lt b x i (by omega), if_pos hc]
    exact ih h
  | case5 fuel i shift acc hs hi c acc' hc =>
    intro h
    rw [remLen, if_neg hs, if_neg (by rw [List.length_append]; omega), getD_append_lt b x i (by omega), if_neg hc]
    exact h

theorem remLen_succ (b : Bytes) (fuel i shift acc : Nat) (hs : shift ≠ 28) (hi : i < b.length) :
    remLen b (fuel + 1) i shift acc =
      if (b.getD i 0).toNat ≥ 128 then remLen b fuel (i + 1) (shift + 7) (acc + (b.getD i 0).toNat % 128 * 2 ^ shift)
      else some (some (acc + (b.getD i 0).toNat % 128 * 2 ^ shift, i + 1)) := by
  rw [remLen, if_neg hs, if_neg (by omega)]

theorem pow_step (c shift : Nat) : c % 128 * 2 ^ shift + 2 ^ shift ≤ 2 ^ (shift + 7) := by
  rw [Nat.pow_add, ← Nat.succ_mul, Nat.mul_comm]
  exact Nat.mul_le_mul_left _ (Nat.mod_lt _ (by decide))

theorem remLen_bounds (b : Bytes) : ∀ (fuel i shift acc rem hdr : Nat),
    remLen b fuel i shift acc = some (some (rem, hdr)) → i < hdr ∧ hdr ≤ b.length := by
  intro fuel i shift acc rem hdr
  fun_induction remLen b fuel i shift acc with
  | case1 | case2 | case3 => intro h; cases h
  | case4 fuel i shift acc hs hi c acc' hc ih =>
    intro h
    have := ih h
    omega
  | case5 fuel i shift acc hs hi c acc' hc =>
    intro h
    injection h with h; injection h with h; injection h with _ h2
    omega

/-- `j`: length bytes read so far. The last conjunct is `rem < 2^28` in the form that goes through the induction: what is still
    added to `acc` stays below `2^28 - 2^shift`. -/
theorem remLen_spec (b : Bytes) (fuel i shift acc rem hdr : Nat) :
    remLen b fuel i shift acc = some (some (rem, hdr)) → ∀ j, shift = 7 * j → j ≤ 4 →
    hdr + j ≤ i + 4 ∧ rem + 2 ^ shift ≤ acc + 2 ^ 28 := by
  fun_induction remLen b fuel i shift acc with
  | case1 | case2 | case3 => intro h; cases h
  | case4 fuel i shift acc hs hi c acc' hc ih =>
    intro h j hj hj4
    have hlt : j + 1 ≤ 4 := Nat.lt_of_le_of_ne hj4 fun e => hs (by rw [hj, e])
    have g := ih h (j + 1) (congrArg (· + 7) hj) hlt
    have := pow_step c shift
    omega
  | case5 fuel i shift acc hs hi c acc' hc =>
    intro h j hj hj4
    have hlt : j + 1 ≤ 4 := Nat.lt_of_le_of_ne hj4 fun e => hs (by rw [hj, e])
    injection h with h; injection h with h; injection h with h1 h2
    have := pow_step c shift
    have := Nat.pow_le_pow_right (n := 2) (by decide) (hj ▸ Nat.mul_le_mul_left 7 hlt : shift + 7 ≤ 28)
    omega

/-- as `parse` and `unpackResponse` call it: fuel 5, first length byte at index 1, none read yet -/
theorem remLen_hdr {b : Bytes} {rem hdr : Nat} (h : remLen b 5 1 0 0 = some (some (rem, hdr))) :
    2 ≤ hdr ∧ hdr ≤ 5 ∧ hdr ≤ b.length ∧ rem < 268435456 := by
  have := remLen_bounds b 5 1 0 0 rem hdr h
  have := remLen_spec b 5 1 0 0 rem hdr h 0 rfl (by decide)
  omega

theorem remLen_five (b : Bytes) (hl : 5 ≤ b.length)
    (h1 : (b.getD 1 0).toNat ≥ 128) (h2 : (b.getD 2 0).toNat ≥ 128) (h3 : (b.getD 3 0).toNat ≥ 128)
    (h4 : (b.getD 4 0).toNat ≥ 128) : remLen b 5 1 0 0 = some none := by
  rw [remLen_succ b 4 1 0 0 (by decide) (by omega), if_pos h1, remLen_succ b 3 2 7 _ (by decide) (by omega), if_pos h2,
    remLen_succ b 2 3 14 _ (by decide) (by omega), if_pos h3, remLen_succ b 1 4 21 _ (by decide) (by omega), if_pos h4]
  rfl

-- the encoder side (`encRem`, mqtt_pack_fixed_header), used by C17.H only

theorem lenByte_value (n shift acc : Nat) :
    acc + n % 128 * 2 ^ shift + n / 128 * 2 ^ (shift + 7) = acc + n * 2 ^ shift := by
  rw [Nat.pow_add, Nat.add_assoc, Nat.mul_comm (2 ^ shift), ← Nat.mul_assoc, ← Nat.add_mul]
  exact congrArg (acc + · * 2 ^ shift) (Nat.mod_add_div' n 128)

/-- `d`: fuel to spare -/
theorem remLen_encRem (b rest : Bytes) (fe n : Nat) : ∀ (i shift acc d : Nat), b.drop i = encRem fe n ++ rest →
    n < 128 ^ fe → 1 ≤ fe → shift + 7 * fe ≤ 28 →
    remLen b (d + fe) i shift acc = some (some (acc + n * 2 ^ shift, i + (encRem fe n).length)) := by
  fun_induction encRem fe n with
  | case1 => intro i shift acc d _ _ h; cases h
  | case2 fe n hbig ih =>                               -- n > 127: continuation byte, then n / 128
    intro i shift acc d hb hn _ hs
    obtain ⟨hi, hget, hd⟩ := drop_eq_cons hb
    have hn' : n / 128 < 128 ^ fe := Nat.div_lt_of_lt_mul (by rw [Nat.mul_comm, ← Nat.pow_succ]; exact hn)
    have hfe : 1 ≤ fe := Nat.pos_of_ne_zero fun h0 => by
      rw [h0] at hn'; exact absurd hn' (Nat.not_lt.mpr (Nat.div_pos hbig (by decide)))
    have hs' : shift + 7 + 7 * fe ≤ 28 := by rw [Nat.add_assoc, Nat.add_comm 7]; exact hs
    have hx : (b.getD i 0).toNat = n % 128 + 128 :=
      hget ▸ u8_ofNat_toNat _ (Nat.add_lt_add_right (Nat.mod_lt n (by decide)) 128)
    rw [show d + (fe + 1) = d + fe + 1 from rfl, remLen_succ b (d + fe) i shift acc (fun h => by omega) hi, hx,
      if_pos (Nat.le_add_left _ _), Nat.add_mod_right, Nat.mod_mod, ih (i + 1) (shift + 7) _ d hd hn' hfe hs', lenByte_value,
      List.length_cons, Nat.add_assoc, Nat.add_comm 1]
  | case3 fe n hbig =>                                  -- n ≤ 127: last byte
    intro i shift acc d hb hn _ hs
    obtain ⟨hi, hget, _⟩ := drop_eq_cons hb
    have hlt : n < 128 := Nat.lt_succ_of_le (Nat.le_of_not_gt hbig)
    have hx : (b.getD i 0).toNat = n := by
      rw [hget, Nat.mod_eq_of_lt hlt]; exact u8_ofNat_toNat _ (Nat.lt_trans hlt (by decide))
    rw [show d + (fe + 1) = d + fe + 1 from rfl, remLen_succ b (d + fe) i shift acc (fun h => by omega) hi, hx,
      if_neg (Nat.not_le.mpr hlt), Nat.mod_eq_of_lt hlt]
    rfl

-- `hdr ≤ n`: a PINGRESP ends with its header whatever `rem` says
theorem parseBody_pkt (b : Bytes) (ty flags rem hdr n : Nat) :
    parseBody b ty flags rem hdr = .pkt n → rem ≤ b.length - hdr ∧ hdr ≤ n ∧ n ≤ hdr + rem := by
  fun_cases parseBody b ty flags rem hdr <;> intro h <;> cases h <;> omega

theorem parseBody_publish (b : Bytes) (flags rem hdr : Nat) (h : ¬ b.length - hdr < rem) :
    parseBody b 3 flags rem hdr = match unpackPublish flags rem hdr (b.drop hdr) with
      | .publish p => .pkt p.consumed
      | _ => .bad := by
  rw [parseBody, if_neg (by decide), if_neg (fun h => h.1 rfl), if_neg h, if_neg (by decide), if_pos rfl]
  fun_cases unpackPublish flags rem hdr (b.drop hdr) <;> simp only [*, if_true, if_false]

-- cases of `parse`: 1 fewer than two bytes, 2 no length yet (both need more), 3 invalid length, 4 a length was decoded
theorem parse_pkt (b : Bytes) (n : Nat) :
    parse b = .pkt n → ∃ rem hdr, remLen b 5 1 0 0 = some (some (rem, hdr)) ∧
      parseBody b ((b.getD 0 0).toNat / 16) ((b.getD 0 0).toNat % 16) rem hdr = .pkt n := by
  fun_cases parse b with
  | case4 _ rem hdr hr => exact fun h => ⟨rem, hdr, hr, h⟩
  | _ => intro h; cases h

theorem parse_size (b : Bytes) (n : Nat) (h : parse b = .pkt n) : 0 < n ∧ n ≤ b.length := by
  obtain ⟨rem, hdr, hr, hb⟩ := parse_pkt b n h
  have := remLen_hdr hr
  have := parseBody_pkt b _ _ rem hdr n hb
  omega

theorem parseBody_append (b x : Bytes) (ty flags rem hdr : Nat) (hh : hdr ≤ b.length)
    (hne : parseBody b ty flags rem hdr ≠ .need) :
    parseBody (b ++ x) ty flags rem hdr = parseBody b ty flags rem hdr := by
  unfold parseBody at hne ⊢
  by_cases h1 : ty = 0 ∨ ty = 15
  · simp only [if_pos h1]
  by_cases h2 : ty ≠ 3 ∧ flags ≠ reqFlags ty
  · simp only [if_pos h2]
  by_cases h3 : b.length - hdr < rem
  · rw [if_neg h1, if_neg h2, if_pos h3] at hne; exact absurd rfl hne
  have h3' : ¬ (b ++ x).length - hdr < rem := by rw [List.length_append]; omega
  simp only [if_neg h3, if_neg h3']
  -- bytes are read only where `rem ≥ 2`, and then they are there
  by_cases hr : rem < 2
  · simp only [show rem ≠ 2 by omega, show rem < 4 by omega, if_true, ne_eq, not_false_eq_true]
  · rw [getD_append_lt b x hdr (by omega), getD_append_lt b x (hdr + 1) (by omega), List.drop_append_of_le_length hh,
      be16_append _ _ (by rw [List.length_drop]; omega)]

theorem parse_append (b x : Bytes) (hne : parse b ≠ .need) : parse (b ++ x) = parse b := by
  revert hne
  fun_cases parse b with
  | case1 | case2 => intro h; exact absurd rfl h
  | case3 hl hr =>
    intro _
    rw [parse, if_neg (by rw [List.length_append]; omega), remLen_append b x _ _ _ _ _ hr]
  | case4 hl rem hdr hr =>
    intro hne
    have hlen := (remLen_bounds b 5 1 0 0 rem hdr hr).2
    rw [parse, if_neg (by rw [List.length_append]; omega), remLen_append b x _ _ _ _ _ hr, getD_append_lt b x 0 (by omega)]
    exact parseBody_append b x _ _ rem hdr hlen hne

theorem parse_ok : ParserOK parse where
  empty := by decide
  size := parse_size
  pktStable := by
    intro b x n h
    rw [parse_append b x (by rw [h]; intro c; cases c), h]
  badStable := by
    intro b x h
    rw [parse_append b x (by rw [h]; intro c; cases c), h]

end SuplaVerif.MqttRecv
