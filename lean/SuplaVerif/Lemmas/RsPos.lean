/-
  Lemmas/RsPos — the bookkeeping of Model/RsPos in either direction of travel `up` (as in the model's `remaining up`; `gone up p`
  grows with the travel).  Position and tilt are each one `axisStep`; without tilt Ψ = distance gone × full travel time + 10⁴ ×
  carried run time grows by 10⁴ × the run time, up to less than 10⁴ per callback.  In the namespace of C09, whose statements are
  written with `rsCfg` and `sum`.
-/
import SuplaVerif.Model.RsPos
import SuplaVerif.Base.List
namespace SuplaVerif

/-- Props/C10 states it as `movePos_nofull_any` -/
theorem movePos_nofull (c : MvCfg) (m : Mv) (h : c.fullMs = 0) : movePos c m = m := by
  unfold movePos; rw [if_pos (Or.inr (Or.inr h))]

namespace C09

/-- run time `t` that does not pay for `r` units pays for fewer than `r` -/
theorem div_lt_of_floor_gt (r f t : Nat) (h : r * f / 10000 > t) : 10000 * t / f < r := by
  have hf : 0 < f := Nat.pos_of_ne_zero (fun h0 => by simp [h0] at h)
  rw [Nat.div_lt_iff_lt_mul hf]
  omega

/-- `gone false p = p`, offset 100 included, and `gone true p = 10100 - p`, both by rfl -/
def gone (up : Bool) (p : Nat) : Nat := if up then 10100 - p else p

theorem toward (up : Bool) (x d : Nat) (hx : 100 ≤ x ∧ x ≤ 10100) (hd : d ≤ remaining up x) :
    100 ≤ (if up then x - d else x + d) ∧ (if up then x - d else x + d) ≤ 10100 ∧
    gone up (if up then x - d else x + d) = gone up x + d ∧
    remaining up (if up then x - d else x + d) = remaining up x - d := by
  cases up <;> simp [remaining, gone] at hd ⊢ <;> omega

theorem gone_order {up : Bool} {x y : Nat} (hy : y ≤ 10100) (h : gone up x ≤ gone up y) :
    (up = true → y ≤ x) ∧ (up = false → x ≤ y) := by
  cases up <;> simp [gone] at h ⊢ <;> omega

theorem gone_le (up : Bool) (p : Nat) (h : 100 ≤ p ∧ p ≤ 10100) : gone up p ≤ if up then 10000 else 10100 := by
  cases up <;> simp [gone] <;> omega

theorem gone_up_sub {p q : Nat} (hp : p ≤ 10100) (hq : q ≤ 10100) (h : gone true p ≤ gone true q) :
    q ≤ p ∧ gone true q - gone true p = p - q := by
  simp only [gone, if_true] at h ⊢; omega

/-- one axis of `movePos`, position or tilt: `r` µs to the end stop (0: nothing to do), `t` µs carried. `tiltStep` is this by
    rfl, `posStep` up to its `some`. -/
def axisStep (up : Bool) (x r F t : Nat) : Nat × Nat :=
  if r > 0 then
    if r ≤ t then (if up then 100 else 10100, remaining up x * F / 10000)
    else (if up then x - 10000 * t / F else x + 10000 * t / F, (10000 * t / F) * F / 10000)
  else (x, 0)

theorem axisStep_eq (up : Bool) (x r F t : Nat) (hx : 100 ≤ x ∧ x ≤ 10100) (hr : r = 0 ∨ r = remaining up x * F / 10000) :
    ∃ d, d ≤ remaining up x ∧ d * F / 10000 ≤ t ∧ axisStep up x r F t = (if up then x - d else x + d, d * F / 10000) ∧
      (d = remaining up x ∨ 10000 * t < d * F + F ∨ (r = 0 ∧ d = 0)) := by
  unfold axisStep
  by_cases h1 : r > 0
  · have hr : r = remaining up x * F / 10000 := hr.resolve_left (by omega)
    rw [if_pos h1]
    by_cases h2 : r ≤ t
    · -- the end stop is reached: all that remained, paid for in full
      have hend : (if up then x - remaining up x else x + remaining up x) = if up then 100 else 10100 := by
        cases up <;> simp [remaining] <;> omega
      rw [if_pos h2, ← hend]
      exact ⟨_, Nat.le_refl _, hr ▸ h2, rfl, Or.inl rfl⟩
    · -- ⌊10⁴·t/F⌋ units, fewer than remain
      rw [if_neg h2]
      have hF : 0 < F := Nat.pos_of_ne_zero (fun h0 => by simp [h0] at hr; omega)
      exact ⟨_, Nat.le_of_lt (div_lt_of_floor_gt _ F t (by omega)), Nat.div_le_of_le_mul (Nat.div_mul_le_self _ F), rfl,
        Or.inr (Or.inl (Nat.lt_div_mul_add hF))⟩
  · rw [if_neg h1]
    refine ⟨0, Nat.zero_le _, by simp, ?_, Or.inr (Or.inr ⟨by omega, rfl⟩)⟩
    cases up <;> simp

theorem axisStep_range_mono (up : Bool) (x r F t : Nat) (hx : 100 ≤ x ∧ x ≤ 10100)
    (hr : r = 0 ∨ r = remaining up x * F / 10000) :
    100 ≤ (axisStep up x r F t).1 ∧ (axisStep up x r F t).1 ≤ 10100 ∧
    (up = true → (axisStep up x r F t).1 ≤ x) ∧ (up = false → x ≤ (axisStep up x r F t).1) := by
  obtain ⟨d, hd, _, e, _⟩ := axisStep_eq up x r F t hx hr
  obtain ⟨lo, hi, hgone, _⟩ := toward up x d hx hd
  rw [e]
  exact ⟨lo, hi, gone_order hi (Nat.le.intro hgone.symm)⟩

theorem posStep_axis (c : MvCfg) (s : Mv) :
    (posStep c s).1 = (axisStep c.up s.pos (remPosTime c s) c.fullPos s.time).1 ∧
    (posStep c s).2.getD 0 = (axisStep c.up s.pos (remPosTime c s) c.fullPos s.time).2 := by
  unfold posStep axisStep
  by_cases h1 : remPosTime c s > 0
  · rw [if_pos h1, if_pos h1]
    by_cases h2 : remPosTime c s ≤ s.time
    · rw [if_pos h2, if_pos h2]
      exact ⟨rfl, rfl⟩
    · rw [if_neg h2, if_neg h2]
      exact ⟨rfl, rfl⟩
  · rw [if_neg h1, if_neg h1]
    exact ⟨rfl, rfl⟩

def rsCfg (fullMs : Nat) (up : Bool) : MvCfg := { fullMs := fullMs, tiltMs := 0, ttype := 0, up := up }

theorem rs_tiltStep (fullMs : Nat) (up : Bool) (s : Mv) : tiltStep (rsCfg fullMs up) s = (s.tilt, 0) := by
  simp [tiltStep, remTiltTime, tiltIn, rsCfg, MvCfg.tiltSupported]

theorem rs_fullPos (fullMs : Nat) (up : Bool) : (rsCfg fullMs up).fullPos = fullMs * 1000 := by
  unfold MvCfg.fullPos MvCfg.full rsCfg; simp

theorem movePos_rs (fullMs : Nat) (up : Bool) (s : Mv) (hp : 100 ≤ s.pos ∧ s.pos ≤ 10100) (hF : fullMs ≠ 0) :
    movePos (rsCfg fullMs up) s =
      { pos := (axisStep up s.pos (remaining up s.pos * (fullMs * 1000) / 10000) (fullMs * 1000) s.time).1, tilt := s.tilt,
        time := s.time - (axisStep up s.pos (remaining up s.pos * (fullMs * 1000) / 10000) (fullMs * 1000) s.time).2 } := by
  have h0 : ¬ (s.pos < 100 ∨ s.pos > 10100 ∨ (rsCfg fullMs up).fullMs = 0) := by
    simp only [rsCfg]; omega
  obtain ⟨e1, e2⟩ := posStep_axis (rsCfg fullMs up) s
  unfold movePos
  rw [if_neg h0, rs_tiltStep, e1, e2]
  unfold remPosTime
  rw [rs_tiltStep, rs_fullPos, if_neg (fun h => Nat.lt_irrefl 0 h.1)]
  rfl

/-- conserved quantity: distance gone in time units plus the carried time -/
def psiD (up : Bool) (F : Nat) (s : Mv) : Nat := gone up s.pos * F + 10000 * s.time

theorem pay (F g d t : Nat) (h : d * F / 10000 ≤ t) :
    g * F + 10000 * t ≤ (g + d) * F + 10000 * (t - d * F / 10000) ∧
    (g + d) * F + 10000 * (t - d * F / 10000) < g * F + 10000 * t + 10000 := by
  rw [Nat.add_mul]
  omega

theorem sub_mul_le {a b F x y : Nat} (h' : a * F + x < b * F + y) : (a - b) * F ≤ y := by
  have := Nat.sub_mul a b F
  omega

/-- `10 ≤ fullMs`: a unit costs at least 1 µs, so something left to go takes time -/
theorem movePos_psi (fullMs : Nat) (hF : 10 ≤ fullMs) (up : Bool) (s : Mv) (hp : 100 ≤ s.pos ∧ s.pos ≤ 10100) :
    let s' := movePos (rsCfg fullMs up) s
    100 ≤ s'.pos ∧ s'.pos ≤ 10100 ∧ gone up s.pos ≤ gone up s'.pos ∧
    psiD up (fullMs * 1000) s ≤ psiD up (fullMs * 1000) s' ∧ psiD up (fullMs * 1000) s' < psiD up (fullMs * 1000) s + 10000 ∧
    (0 < remaining up s'.pos → 10000 * s'.time < fullMs * 1000 + 10000) := by
  rw [movePos_rs fullMs up s hp (by omega)]
  unfold psiD
  generalize hFe : fullMs * 1000 = F
  obtain ⟨d, hd, hpaid, e, hfar⟩ := axisStep_eq up s.pos _ F s.time hp (Or.inr rfl)
  obtain ⟨lo, hi, hgone, hrem⟩ := toward up s.pos d hp hd
  obtain ⟨p1, p2⟩ := pay F (gone up s.pos) d s.time hpaid
  simp only [e, hgone, hrem]
  refine ⟨lo, hi, Nat.le_add_right _ _, p1, p2, fun hleft => ?_⟩
  rcases hfar with h | h | ⟨h0, _⟩
  · rw [h, Nat.sub_self] at hleft  -- nothing is left
    cases hleft
  · omega  -- `h`: one unit more is not paid for
  · -- nothing to do although something is left: the time to the end stop would be positive
    have hF4 : 10000 ≤ F := by omega
    have := Nat.div_pos (Nat.le_trans hF4 (Nat.le_mul_of_pos_left F (Nat.lt_of_lt_of_le hleft (Nat.sub_le _ d)))) (by decide)
    omega

theorem tick_psi (fullMs : Nat) (hF : 10 ≤ fullMs) (up : Bool) (s : Mv) (dt : Nat) (hp : 100 ≤ s.pos ∧ s.pos ≤ 10100) :
    let s' := mvTick (rsCfg fullMs up) s dt
    100 ≤ s'.pos ∧ s'.pos ≤ 10100 ∧ gone up s.pos ≤ gone up s'.pos ∧
    psiD up (fullMs * 1000) s + 10000 * dt ≤ psiD up (fullMs * 1000) s' ∧
    psiD up (fullMs * 1000) s' < psiD up (fullMs * 1000) s + 10000 * dt + 10000 ∧
    (0 < remaining up s'.pos → 10000 * s'.time < fullMs * 1000 + 10000) := by
  have t := movePos_psi fullMs hF up { s with time := s.time + dt } hp
  -- with 10⁴·(time + dt) distributed, `t` is the goal with `mvTick` and Ψ unfolded
  simp only [psiD, Nat.mul_add, ← Nat.add_assoc] at t
  exact t

/-- `List.sum` (`sum_eq`), under the name the theorems of C09 and C10 are stated with -/
def sum : List Nat → Nat
  | [] => 0
  | x :: xs => x + sum xs

theorem sum_eq (dts : List Nat) : sum dts = dts.sum := by
  induction dts with
  | nil => rfl
  | cons x xs ih => rw [sum, ih, List.sum_cons]

def Tracks (F : Nat) (up : Bool) (s : Mv) (T n : Nat) (x : Mv) : Prop :=
  100 ≤ x.pos ∧ x.pos ≤ 10100 ∧ gone up s.pos ≤ gone up x.pos ∧
  psiD up F s + 10000 * T ≤ psiD up F x ∧ psiD up F x ≤ psiD up F s + 10000 * T + 10000 * n ∧
  (0 < n → 0 < remaining up x.pos → 10000 * x.time < F + 10000)

theorem run_psi (fullMs : Nat) (hF : 10 ≤ fullMs) (up : Bool) (dts : List Nat) (s : Mv) (hp : 100 ≤ s.pos ∧ s.pos ≤ 10100) :
    Tracks (fullMs * 1000) up s (sum dts) dts.length (mvRun (rsCfg fullMs up) s dts) := by
  rw [run_eq_foldl (mvTick (rsCfg fullMs up)) (mvRun (rsCfg fullMs up)) (fun _ => rfl) (fun _ _ _ => rfl), sum_eq]
  refine foldl_timed (mvTick (rsCfg fullMs up)) (Tracks (fullMs * 1000) up s) ?_ dts s
    ⟨hp.1, hp.2, Nat.le_refl _, Nat.le_refl _, Nat.le_refl _, fun h => absurd h (Nat.lt_irrefl 0)⟩
  intro T n x dt ⟨lo, hi, hgone, hlow, hupp, _⟩
  obtain ⟨lo', hi', tgone, tlow, tupp, tcarry⟩ := tick_psi fullMs hF up x dt ⟨lo, hi⟩
  exact ⟨lo', hi', Nat.le_trans hgone tgone, by omega, by omega, fun _ => tcarry⟩  -- `hlow` with `tlow`, `hupp` with `tupp`

theorem accuracy (fullMs : Nat) (hF : 10 ≤ fullMs) (up : Bool) (p0 : Nat) (hp : 100 ≤ p0 ∧ p0 ≤ 10100) (dts : List Nat) :
    let q := mvRun (rsCfg fullMs up) { pos := p0, tilt := 0, time := 0 } dts
    100 ≤ q.pos ∧ q.pos ≤ 10100 ∧ gone up p0 ≤ gone up q.pos ∧
    (gone up q.pos - gone up p0) * (fullMs * 1000) ≤ 10000 * sum dts + 10000 * dts.length ∧
    (dts ≠ [] → 0 < remaining up q.pos →
      10000 * sum dts < (gone up q.pos - gone up p0) * (fullMs * 1000) + fullMs * 1000 + 10000) := by
  obtain ⟨lo, hi, hgone, hlow, hupp, hcarry⟩ := run_psi fullMs hF up dts { pos := p0, tilt := 0, time := 0 } hp
  simp only [psiD] at hlow hupp
  generalize mvRun (rsCfg fullMs up) { pos := p0, tilt := 0, time := 0 } dts = q at *
  have m := Nat.sub_mul (gone up q.pos) (gone up p0) (fullMs * 1000)
  refine ⟨lo, hi, hgone, by omega, fun hne hr => ?_⟩
  have := hcarry (List.length_pos_iff.mpr hne) hr
  omega

end C09
end SuplaVerif
