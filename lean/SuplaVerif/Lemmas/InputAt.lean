/-
  Lemmas/InputAt — the action-trigger handling of a plain monostable button (Model/InputAt) as equations: a resolution,
  a press, a release, a timer callback; then one quick click and a burst, where what has been sent is read off the counter
  (-1: resolved, closed).
-/
import SuplaVerif.Model.InputAt
namespace SuplaVerif

/-- a plain monostable button in action-trigger mode: no configuration-button gestures on it, TURN_OFF not active -/
structure PlainMono (c : AtCfg) (s : AtSt) : Prop where
  typ : c.typ = 2
  noHold : c.cfgHold = false
  noToggle : c.cfgToggle = false
  noTurnOff : Nat.land capTurnOff s.active = 0

/-- fields of the state that presses, releases and timer callbacks never touch -/
def SameCfg (s s' : AtSt) : Prop :=
  s'.active = s.active ∧ s'.relayConn = s.relayConn ∧ s'.maxClicks = s.maxClicks

section
variable {c : AtCfg} {s s' : AtSt}

theorem sendAt_congr (a : Nat) (h1 : s'.click = s.click) (h2 : s'.relayConn = s.relayConn)
    (h3 : s'.last = s.last) (h4 : s'.active = s.active) : sendAt c s' a = sendAt c s a := by
  unfold sendAt emit
  rw [h1, h2, h3, h4]

theorem emit_cases (c : AtCfg) (s : AtSt) (y : Nat) :
    emit c s y = [] ∨ (emit c s y = [.trig y] ∧ Nat.land y s.active ≠ 0 ∧ c.channel ≠ 255) := by
  fun_cases emit c s y
  case case1 => exact .inl rfl
  case case2 hc => exact .inr ⟨rfl, fun hh => hc (.inr (.inl hh)), fun hh => hc (.inr (.inr hh))⟩

theorem sendAt_cases (c : AtCfg) (s : AtSt) (a : Nat) :
    sendAt c s a = [] ∨
    (∃ o, sendAt c s a = [o] ∧ (o = .localAct ∨ o = .localInact) ∧ a = 0 ∧ s.click = 1 ∧ s.relayConn = true) ∨
    ∃ y, sendAt c s a = [.trig y] ∧ Nat.land y s.active ≠ 0 ∧ c.channel ≠ 255 ∧
      (a = 0 → y = countAction c s.click ∧ s.click ≠ -1) := by
  fun_cases sendAt c s a
  case case1 => exact .inl rfl   -- count -1
  -- 2-4: one click, relay connected; which local action depends on shutter / level / button type
  case case2 ha _ hone _ _ => exact .inr (.inl ⟨_, rfl, .inl rfl, ha, hone⟩)
  case case3 ha _ hone _ _ => exact .inr (.inl ⟨_, rfl, .inr rfl, ha, hone⟩)
  case case4 ha _ hone _ => exact .inr (.inl ⟨_, rfl, .inl rfl, ha, hone⟩)
  -- 5, 6: what `emit` lets through of the trigger of the count, or of the action asked for
  case case5 hres _ => exact (emit_cases c s _).imp id fun ⟨e, h⟩ => .inr ⟨_, e, h.1, h.2, fun _ => ⟨rfl, hres⟩⟩
  case case6 ha => exact (emit_cases c s a).imp id fun ⟨e, h⟩ => .inr ⟨_, e, h.1, h.2, fun h0 => absurd h0 ha⟩

theorem runAt_cons_eq {o : List AtOut} (e : AtStep) {es : List AtStep} (h : stepAt c s e = (s', o)) :
    runAt c s (e :: es) = ((runAt c s' es).1, o ++ (runAt c s' es).2) := by
  rw [runAt, h]

theorem runAt_cons_silent (e : AtStep) {es : List AtStep} (h : stepAt c s e = (s', [])) :
    runAt c s (e :: es) = runAt c s' es :=
  runAt_cons_eq e h

theorem runAt_waits_silent {ws : List Nat} {es : List AtStep} (hno : ∀ δ ∈ ws, tickD c s δ = (s, [])) :
    runAt c s (ws.map .wait ++ es) = runAt c s es := by
  induction ws with
  | nil => rfl
  | cons w ws ih =>
    rw [List.map_cons, List.cons_append, runAt_cons_silent (.wait w) (hno w List.mem_cons_self)]
    exact ih fun δ hδ => hno δ (List.mem_cons_of_mem _ hδ)

theorem runAt_append (c : AtCfg) (s : AtSt) (xs ys : List AtStep) :
    runAt c s (xs ++ ys) = ((runAt c (runAt c s xs).1 ys).1, (runAt c s xs).2 ++ (runAt c (runAt c s xs).1 ys).2) := by
  induction xs generalizing s with
  | nil => simp [runAt]
  | cons x xs ih =>
    simp only [List.cons_append, runAt]
    rw [ih]
    simp

theorem tickD_unarmed (ha : s.armed = false) (δ : Nat) : tickD c s δ = (s, []) := by
  rw [tickD, ha]
  rfl

-- a released button: the callback does not look at the button type
theorem tickD_released (ha : s.armed = true) (hl : s.last = false) (δ : Nat) :
    tickD c s δ =
      if δ ≥ c.multiUs then ({ s with armed := false, click := 0 }, sendAt c s 0)
      else if s.click ≥ (s.maxClicks : Int) then
        if s.maxClicks ≤ 1 then ({ s with click := 0, armed := false }, sendAt c s 0)
        else ({ s with click := -1 }, sendAt c s 0)
      else (s, []) := by
  unfold tickD
  simp [ha, hl]

theorem wait_released_below (ha : s.armed = true) (hl : s.last = false) {δ : Nat} (hδ : δ < c.multiUs)
    (hk : s.click < (s.maxClicks : Int)) : tickD c s δ = (s, []) := by
  rw [tickD_released ha hl, if_neg (Nat.not_le.mpr hδ), if_neg (Int.not_le.mpr hk)]

-- `h` is the first explicit argument of every lemma to the end of the section
variable (h : PlainMono c s)
include h

theorem PlainMono.of_active (e : s'.active = s.active) : PlainMono c s' :=
  ⟨h.typ, h.noHold, h.noToggle, e ▸ h.noTurnOff⟩

theorem change_press (now : Nat) :
    change c s true now =
      ({ s with last := true, armed := true, lastChange := now, click := if s.click = -1 then -1 else s.click + 1 }, []) := by
  unfold change
  simp only [h.typ, h.noToggle]
  by_cases hc : s.click = -1 <;> simp [hc]

theorem change_release (now : Nat) :
    change c s false now = ({ s with last := false, armed := true, lastChange := now }, []) := by
  unfold change
  have he : sendAt c { s with last := false, armed := false } capTurnOff = [] := by
    unfold sendAt emit
    rw [if_neg (by decide), if_pos (.inr (.inl h.noTurnOff))]
  simp [h.typ, he]

theorem tickD_pressed (ha : s.armed = true) (hl : s.last = true) (δ : Nat) :
    tickD c s δ =
      if s.click = 1 ∧ δ ≥ c.holdUs then ({ s with click := 0, armed := false }, sendAt c s capHold) else (s, []) := by
  unfold tickD
  by_cases hc : s.click = -1
  · simp [hl, h.typ, hc]
  · by_cases h1 : s.click = 1 ∧ δ ≥ c.holdUs
    · simp [ha, hl, h.typ, h.noHold, h1]
    · simp [hl, h.typ, h.noHold, h1]

theorem wait_pressed_below (ha : s.armed = true) (hl : s.last = true) {δ : Nat} (hδ : δ < c.holdUs) :
    tickD c s δ = (s, []) :=
  (tickD_pressed h ha hl δ).trans (if_neg fun hh => Nat.not_le.mpr hδ hh.2)

theorem runAt_waits_idle (hl : s.last = false) (hc : s.click = 0) (ws : List Nat) : (runAt c s (ws.map .wait)).2 = [] := by
  induction ws generalizing s with
  | nil => rfl
  | cons w ws ih =>
    have hz : sendAt c s 0 = [] := by unfold sendAt emit countAction; simp [hc]
    have hstep : ∃ s', tickD c s w = (s', []) ∧ PlainMono c s' ∧ s'.last = false ∧ s'.click = 0 := by
      cases ha : s.armed
      · exact ⟨s, tickD_unarmed ha w, h, hl, hc⟩
      · -- the regimes of `tickD_released`; whatever is resolved is `sendAt c s 0 = []`
        rw [tickD_released ha hl, hz]
        by_cases hquiet : w ≥ c.multiUs
        · rw [if_pos hquiet]; exact ⟨_, rfl, h.of_active rfl, hl, rfl⟩
        · rw [if_neg hquiet]
          by_cases hmax : s.click ≥ (s.maxClicks : Int)
          · -- count 0 is the highest detectable one: `maxClicks = 0`
            rw [if_pos hmax, if_pos (show s.maxClicks ≤ 1 by omega)]
            exact ⟨_, rfl, h.of_active rfl, hl, rfl⟩
          · rw [if_neg hmax]; exact ⟨s, rfl, h, hl, hc⟩
    obtain ⟨s', e, h', hl', hc'⟩ := hstep
    rw [List.map_cons, runAt_cons_silent (.wait w) e]
    exact ih h' hl' hc'

end

/-- one quick click as the handler sees it: press, callbacks while pressed, release, callbacks while released -/
def quickClick (wp wr : List Nat) : List AtStep := .press :: (wp.map .wait ++ .release :: wr.map .wait)

/-- "quick": released again before the hold time, pressed again (or left alone) inside the multi-click time; at least
    one timer callback falls between a release and the next press (the debounce alone takes five periods) -/
structure Quick (c : AtCfg) (wp wr : List Nat) : Prop where
  pressed : ∀ δ ∈ wp, δ < c.holdUs
  released : ∀ δ ∈ wr, δ < c.multiUs
  ticked : wr ≠ []

/-- the click counter after one more quick click (-1: the burst has been resolved) -/
def nextCount (M : Nat) (k : Int) : Int := if k = -1 then -1 else if k + 1 ≥ (M : Int) then -1 else k + 1

theorem one_click_eq {c : AtCfg} {s : AtSt} {wp wr : List Nat} (h : PlainMono c s) (hq : Quick c wp wr)
    (hm : 2 ≤ s.maxClicks) :
    runAt c s (quickClick wp wr) =
      ({ s with last := false, armed := true, lastChange := 0, click := nextCount s.maxClicks s.click },
       if s.click ≠ -1 ∧ s.click + 1 ≥ (s.maxClicks : Int) then sendAt c { s with click := s.click + 1, last := false } 0 else []) := by
  -- `k` is the count after the press
  obtain ⟨k, hk⟩ : ∃ k, k = if s.click = -1 then -1 else s.click + 1 := ⟨_, rfl⟩
  let sp : AtSt := { s with last := true, armed := true, lastChange := 0, click := k }
  let sr : AtSt := { sp with last := false }
  have hp : PlainMono c sp := h.of_active rfl
  have hpress : stepAt c s .press = (sp, []) := (change_press h 0).trans (by rw [← hk])
  have hheld : ∀ δ ∈ wp, tickD c sp δ = (sp, []) := fun δ hδ => wait_pressed_below hp rfl rfl (hq.pressed δ hδ)
  have hrelease : stepAt c sp .release = (sr, []) := change_release hp 0
  rw [quickClick, runAt_cons_silent .press hpress, runAt_waits_silent hheld, runAt_cons_silent .release hrelease]
  -- `runAt_waits_silent` is about callbacks followed by further steps
  rw [← List.append_nil (wr.map _)]
  by_cases hres : s.click ≠ -1 ∧ s.click + 1 ≥ (s.maxClicks : Int)
  · -- reaches the highest count: the first callback resolves, the others find the burst closed
    obtain ⟨w, ws, rfl⟩ := List.exists_cons_of_ne_nil hq.ticked
    have hk' : k = s.click + 1 := by rw [hk, if_neg hres.1]
    have hreach : k ≥ (s.maxClicks : Int) := hk' ▸ hres.2
    let sc : AtSt := { sr with click := -1 }
    have hfirst : stepAt c sr (.wait w) = (sc, sendAt c sr 0) := (tickD_released rfl rfl w).trans (by
      rw [if_neg (Nat.not_le.mpr (hq.released w List.mem_cons_self)), if_pos hreach, if_neg (Nat.not_le.mpr hm)])
    have hclosed : ∀ δ ∈ ws, tickD c sc δ = (sc, []) := fun δ hδ =>
      wait_released_below rfl rfl (hq.released δ (List.mem_cons_of_mem _ hδ)) (Int.lt_of_lt_of_le (show (-1 : Int) < 0 by decide) (Int.natCast_nonneg _))
    rw [if_pos hres, nextCount, if_neg hres.1, if_pos hres.2, List.map_cons, List.cons_append,
      runAt_cons_eq (.wait w) hfirst, runAt_waits_silent hclosed]
    exact Prod.ext rfl ((List.append_nil _).trans (sendAt_congr 0 hk' rfl rfl rfl))
  · -- resolved before, or below the highest count: the callbacks wait
    have hk' : k = nextCount s.maxClicks s.click ∧ k < (s.maxClicks : Int) := by
      rw [hk, nextCount]
      by_cases h1 : s.click = -1
      · rw [if_pos h1, if_pos h1]; omega
      · have h2 : ¬ s.click + 1 ≥ (s.maxClicks : Int) := fun h2 => hres ⟨h1, h2⟩
        rw [if_neg h1, if_neg h1, if_neg h2]; omega
    have hwait : ∀ δ ∈ wr, tickD c sr δ = (sr, []) := fun δ hδ => wait_released_below rfl rfl (hq.released δ hδ) hk'.2
    rw [if_neg hres, runAt_waits_silent hwait, ← hk'.1]
    rfl

theorem one_click (c : AtCfg) (s : AtSt) (wp wr : List Nat) (h : PlainMono c s) (hq : Quick c wp wr)
    (hl : s.last = false) (hm : 2 ≤ s.maxClicks) (hk : s.click = -1 ∨ (0 ≤ s.click ∧ s.click < (s.maxClicks : Int))) :
    (runAt c s (quickClick wp wr)).1.last = false ∧
    (runAt c s (quickClick wp wr)).1.click = nextCount s.maxClicks s.click ∧
    (runAt c s (quickClick wp wr)).1.armed = true ∧
    SameCfg s (runAt c s (quickClick wp wr)).1 ∧
    (runAt c s (quickClick wp wr)).2 =
      (if s.click ≠ -1 ∧ s.click + 1 ≥ (s.maxClicks : Int) then sendAt c { s with click := s.click + 1, last := false } 0 else []) := by
  rw [one_click_eq h hq hm]
  exact ⟨rfl, rfl, rfl, ⟨rfl, rfl, rfl⟩, rfl⟩

def burst : List (List Nat × List Nat) → List AtStep
  | [] => []
  | p :: ps => quickClick p.1 p.2 ++ burst ps

/-- the counter after `n` more quick clicks -/
def countAfter (M : Nat) (k : Int) (n : Nat) : Int :=
  if k = -1 then -1 else if k + n ≥ (M : Int) then -1 else k + n

theorem countAfter_succ {M : Nat} {k : Int} (hk : k = -1 ∨ (0 ≤ k ∧ k < (M : Int))) (n : Nat) :
    (nextCount M k = -1 ∨ (0 ≤ nextCount M k ∧ nextCount M k < (M : Int))) ∧
    countAfter M (nextCount M k) n = countAfter M k (n + 1) := by
  unfold countAfter nextCount
  rcases hk with e | ⟨h0, hlt⟩
  · rw [if_pos e]   -- closed: the click is swallowed
    exact ⟨.inl rfl, by rw [if_pos rfl, if_pos e]⟩
  · have hne : k ≠ -1 := by omega
    rw [if_neg hne]
    by_cases hM : k + 1 ≥ (M : Int)
    · rw [if_pos hM]   -- reaches `M`: closed from here on
      exact ⟨.inl rfl, by rw [if_pos rfl, if_neg hne, if_pos (by omega)]⟩
    · rw [if_neg hM]   -- counted
      refine ⟨.inr (by omega), ?_⟩
      rw [if_neg (show k + 1 ≠ -1 by omega), if_neg hne, show k + 1 + (n : Int) = k + ((n + 1 : Nat) : Int) by omega]

theorem countAfter_closed {M : Nat} {k : Int} (hk : k = -1 ∨ (0 ≤ k ∧ k < (M : Int))) (n : Nat) :
    (k ≠ -1 ∧ countAfter M k n = -1) ↔ (k ≠ -1 ∧ k + (n : Int) ≥ (M : Int)) := by
  refine and_congr_right fun hne => ?_
  rw [countAfter, if_neg hne]
  by_cases hr : k + (n : Int) ≥ (M : Int)
  · rw [if_pos hr]; exact ⟨fun _ => hr, fun _ => rfl⟩
  · rw [if_neg hr]; exact ⟨fun e => by omega, fun e => absurd e hr⟩

/-- a closed counter stays closed (`h1`, `h2`), so the two closings telescope -/
theorem closing_append {α : Type} (X : List α) {k k' k'' : Int} (h1 : k = -1 → k' = -1) (h2 : k' = -1 → k'' = -1) :
    (if k ≠ -1 ∧ k' = -1 then X else []) ++ (if k' ≠ -1 ∧ k'' = -1 then X else []) =
      if k ≠ -1 ∧ k'' = -1 then X else [] := by
  by_cases e : k' = -1
  · rw [if_neg (show ¬(k' ≠ -1 ∧ k'' = -1) from fun hh => hh.1 e), List.append_nil]
    exact ite_congr (propext (and_congr_right fun _ => iff_of_true e (h2 e))) (fun _ => rfl) fun _ => rfl
  · rw [if_neg (show ¬(k ≠ -1 ∧ k' = -1) from fun hh => e hh.2)]
    exact ite_congr (propext (and_congr_left fun _ => iff_of_true e fun hk => e (h1 hk))) (fun _ => rfl) fun _ => rfl

theorem one_click_sent {c : AtCfg} {s : AtSt} {wp wr : List Nat} (h : PlainMono c s) (hq : Quick c wp wr)
    (hm : 2 ≤ s.maxClicks) (hk : s.click = -1 ∨ (0 ≤ s.click ∧ s.click < (s.maxClicks : Int))) :
    runAt c s (quickClick wp wr) =
      ({ s with last := false, armed := true, lastChange := 0, click := nextCount s.maxClicks s.click },
       if s.click ≠ -1 ∧ nextCount s.maxClicks s.click = -1 then sendAt c { s with click := s.maxClicks, last := false } 0 else []) := by
  rw [one_click_eq h hq hm]
  -- `countAfter M k 1` unfolds to `nextCount M k`
  refine congrArg (Prod.mk _) (ite_congr (propext (countAfter_closed hk 1)).symm (fun hc => ?_) fun _ => rfl)
  have hM : s.click + 1 ≥ (s.maxClicks : Int) := ((countAfter_closed hk 1).mp hc).2
  exact sendAt_congr 0 (show s.click + 1 = (s.maxClicks : Int) by omega) rfl rfl rfl

theorem burst_eq {c : AtCfg} {ps : List (List Nat × List Nat)} : ∀ {p : List Nat × List Nat} {s : AtSt}, PlainMono c s →
    (∀ q ∈ p :: ps, Quick c q.1 q.2) → 2 ≤ s.maxClicks →
    (s.click = -1 ∨ (0 ≤ s.click ∧ s.click < (s.maxClicks : Int))) →
    runAt c s (burst (p :: ps)) =
      ({ s with last := false, armed := true, lastChange := 0, click := countAfter s.maxClicks s.click (ps.length + 1) },
       if s.click ≠ -1 ∧ countAfter s.maxClicks s.click (ps.length + 1) = -1 then
         sendAt c { s with click := s.maxClicks, last := false } 0 else []) := by
  induction ps with
  | nil =>
    intro p s h hq hm hk
    rw [burst, burst, List.append_nil]
    exact one_click_sent h (hq p List.mem_cons_self) hm hk
  | cons q qs ih =>
    intro p s h hq hm hk
    let s1 : AtSt := { s with last := false, armed := true, lastChange := 0, click := nextCount s.maxClicks s.click }
    obtain ⟨hk1, hcnt⟩ := countAfter_succ hk (qs.length + 1)
    rw [burst, runAt_append, one_click_sent h (hq p List.mem_cons_self) hm hk,
      ih (s := s1) (h.of_active rfl) (fun r hr => hq r (List.mem_cons_of_mem _ hr)) hm hk1]
    refine Prod.ext (congrArg (fun k => ({ s with last := false, armed := true, lastChange := 0, click := k } : AtSt)) hcnt) ?_
    rw [hcnt]
    -- `nextCount M (-1)` and `countAfter M (-1) n` are -1
    exact closing_append _ (fun e => by rw [e]; exact if_pos rfl) fun e => hcnt.symm.trans (by rw [e]; exact if_pos rfl)

theorem burst_run (c : AtCfg) (cs : List (List Nat × List Nat)) : ∀ (s : AtSt), PlainMono c s →
    (∀ p ∈ cs, Quick c p.1 p.2) → s.last = false → 2 ≤ s.maxClicks →
    (s.click = -1 ∨ (0 ≤ s.click ∧ s.click < (s.maxClicks : Int))) →
    (runAt c s (burst cs)).1.last = false ∧
    (runAt c s (burst cs)).1.click = countAfter s.maxClicks s.click cs.length ∧
    (cs ≠ [] → (runAt c s (burst cs)).1.armed = true) ∧
    SameCfg s (runAt c s (burst cs)).1 ∧
    (runAt c s (burst cs)).2 =
      (if s.click ≠ -1 ∧ s.click + cs.length ≥ (s.maxClicks : Int) then
        sendAt c { s with click := s.maxClicks, last := false } 0 else []) := by
  intro s h hq hl hm hk
  cases cs with
  | nil =>
    have hnone : ¬(s.click ≠ -1 ∧ s.click + ((0 : Nat) : Int) ≥ (s.maxClicks : Int)) := by omega
    have hcount : countAfter s.maxClicks s.click 0 = s.click := by
      rw [countAfter]
      rcases hk with h1 | h1
      · rw [if_pos h1, h1]
      · rw [if_neg (by omega), if_neg (by omega)]; exact Int.add_zero _
    exact ⟨hl, hcount.symm, fun h => absurd rfl h, ⟨rfl, rfl, rfl⟩, (if_neg hnone).symm⟩
  | cons p ps =>
    rw [burst_eq h hq hm hk]
    exact ⟨rfl, rfl, fun _ => rfl, ⟨rfl, rfl, rfl⟩, ite_congr (propext (countAfter_closed hk _)) (fun _ => rfl) fun _ => rfl⟩

end SuplaVerif
