/-
  Lemmas/RsTask — what each part of the roller-shutter callback (Model/RsTask) does in each regime.
  The direction of travel is one parameter `up : Bool`: `dirCode up` is the model's code of it, `P.full up` its travel time,
  `s.run up` its run time; at `up = false` / `true` these are `1`, `P.fc`, `s.downT` / `2`, `P.fo`, `s.upT` by rfl.
-/
import SuplaVerif.Model.RsTask
import SuplaVerif.Lemmas.RsPos
namespace SuplaVerif
open C09 (rsCfg)

theorem known_of_range (p : Nat) (h : 100 ≤ p ∧ p ≤ 10100) : known p = true := by
  unfold known; simp; omega

theorem rsRun_timed (P : RsP) (J : Nat → Nat → RsT → Prop)
    (step : ∀ T n s dt, J T n s → J (T + dt) (n + 1) (rsTick P s dt)) (dts : List Nat) (s : RsT) (h : J 0 0 s) :
    J (C09.sum dts) dts.length (rsRun P s dts) := by
  rw [run_eq_foldl (rsTick P) (rsRun P) (fun _ => rfl) (fun _ _ _ => rfl), C09.sum_eq]
  exact foldl_timed (rsTick P) J step dts s h

def dirCode (up : Bool) : Nat := if up then 2 else 1
def RsP.full (P : RsP) (up : Bool) : Nat := if up then P.fo else P.fc
def RsT.run (s : RsT) (up : Bool) : Nat := if up then s.upT else s.downT
/-- every field but the run times is that of `s` by rfl -/
def RsT.withRun (s : RsT) (up : Bool) (t : Nat) : RsT :=
  { s with upT := if up then t else 0, downT := if up then 0 else t }

theorem dirCode_ne_zero (up : Bool) : dirCode up ≠ 0 := by cases up <;> decide

theorem RsT.run_withRun (s : RsT) (up : Bool) (t : Nat) :
    (s.withRun up t).run up = t ∧
    (((s.withRun up t).upT = t ∧ (s.withRun up t).downT = 0) ∨ ((s.withRun up t).upT = 0 ∧ (s.withRun up t).downT = t)) := by
  cases up <;> simp [RsT.withRun, RsT.run]

theorem RsT.run_zero (up : Bool) (s : RsT) (hu : s.upT = 0) (hd : s.downT = 0) : s.run up = 0 := by
  cases up <;> assumption

def beyondTg (up : Bool) (p tg : Nat) : Prop := if up then p - 100 ≤ tg * 100 else p - 100 ≥ tg * 100
instance (up : Bool) (p tg : Nat) : Decidable (beyondTg up p tg) := by unfold beyondTg; infer_instance
def beforeTg (up : Bool) (p tg : Nat) : Prop := if up then p - 100 > tg * 100 else p - 100 < tg * 100

/-- the target is not the end stop the move comes from -/
def TgOk (up : Bool) (tg : Nat) : Prop := if up then tg < 100 else 0 < tg

theorem not_beyondTg (up : Bool) (p tg : Nat) (htg : tg ≤ 100) (h : ¬ beyondTg up p tg) : 0 < remaining up p := by
  cases up <;> simp [beyondTg, remaining] at * <;> omega

theorem account_off (P : RsP) (s : RsT) (dt : Nat) (h : s.rel = 0) :
    account P s dt = { s with upT := 0, downT := 0, sinceStop := s.sinceStop + dt } := by
  unfold account; rw [if_neg (by omega), if_neg (by omega)]

theorem account_tstate (P : RsP) (s : RsT) (dt : Nat) : (account P s dt).tstate = s.tstate := by
  fun_cases account P s dt <;> rfl

/-- the two branches of `account` with an output on, written once: they differ in names and in `lag` (a closing move that ends
    at its margin stamps the stop one `relayHiUs` later) -/
theorem account_on (up : Bool) (P : RsP) (s : RsT) (dt : Nat) (hrel : s.rel = dirCode up) :
    account P s dt =
      let m := movePos (rsCfg (P.full up) up)
        { pos := calibrateStep (P.full up) (s.run up + dt) (if up then 100 else 10100) s.pos, tilt := 0, time := s.run up + dt }
      let off := decide (known m.pos ∧ P.full up ≠ 0 ∧ m.pos = (if up then 100 else 10100) ∧ s.tstate = 0 ∧
        m.time / 1000 ≥ P.full up * P.margin / 100)
      { s.withRun up m.time with
        pos := m.pos, rel := if off then 0 else dirCode up, sinceStop := if off then 0 else s.sinceStop,
        pend := if off then 0 else s.pend, lag := if off then (if up then 0 else relayHiUs) else s.lag } := by
  unfold account
  cases up
  · have hrel : s.rel = 1 := hrel
    rw [if_neg (by omega), if_pos hrel]
    rfl
  · have hrel : s.rel = 2 := hrel
    rw [if_pos hrel]
    rfl

theorem account_nofull (up : Bool) (P : RsP) (s : RsT) (dt : Nat) (hrel : s.rel = dirCode up) (hf : P.full up = 0) :
    account P s dt = s.withRun up (s.run up + dt) := by
  rw [account_on up P s dt hrel, movePos_nofull _ _ (by exact hf)]
  -- no travel time: `calibrateStep` and the end-stop test are off
  simp [hf, hrel, calibrateStep, RsT.withRun]

/-- no travel time for the direction that is on, read off the model's codes -/
theorem nofull_of_dir (up : Bool) (P : RsP) {rel : Nat} (h : rel = 0 ∨ (rel = dirCode up ∧ P.full up = 0)) :
    (rel = 2 → P.fo = 0) ∧ (rel = 1 → P.fc = 0) := by
  rcases h with h | ⟨h, hf⟩
  · exact ⟨fun h2 => by omega, fun h1 => by omega⟩
  · cases up
    · have h : rel = 1 := h
      exact ⟨fun h2 => by omega, fun _ => hf⟩
    · have h : rel = 2 := h
      exact ⟨fun _ => hf, fun h1 => by omega⟩

/-- with a task (`hts`) the end-stop margin of plain moves does not switch off -/
theorem account_task (up : Bool) (P : RsP) (s : RsT) (dt : Nat) (hrel : s.rel = dirCode up) (hts : s.tstate ≠ 0)
    (hk : 100 ≤ s.pos ∧ s.pos ≤ 10100) :
    account P s dt =
      ({ s with pos := (mvTick (rsCfg (P.full up) up) { pos := s.pos, tilt := 0, time := s.run up } dt).pos }).withRun up
        (mvTick (rsCfg (P.full up) up) { pos := s.pos, tilt := 0, time := s.run up } dt).time := by
  rw [account_on up P s dt hrel]
  -- position known: `calibrateStep` is off; a task: the end-stop test is off
  simp [calibrateStep, known_of_range s.pos hk, hts, hrel, mvTick, RsT.withRun]

theorem taskStep_idle (P : RsP) (s : RsT) (h : s.tstate = 0) : taskStep P s = s := by
  unfold taskStep; rw [if_pos h]

theorem taskStep_setting (P : RsP) (s : RsT) (h2 : s.tstate = 2) (hd : s.dir ≠ 0) (hk : known s.pos = true) :
    taskStep P s =
      if (s.dir = 2 ∧ s.pos - 100 ≤ s.target * 100) ∨ (s.dir = 1 ∧ s.pos - 100 ≥ s.target * 100) then
        if s.pos - 100 = 0 ∧ inMargin P.fo s.upT (taskMargin P) then s
        else if s.pos - 100 = 10000 ∧ inMargin P.fc s.downT (taskMargin P) then s
        else relOff { s with dir := 0 }
      else s := by
  unfold taskStep
  rw [if_neg (by omega)]
  simp only [hk, h2, hd, Bool.not_true, Bool.false_eq_true, if_false, Nat.succ_ne_self, true_and]

/-- of the two margin tests of `taskStep_setting` only the one at the end stop ahead can apply (`htg`) -/
theorem taskStep_moving (up : Bool) (P : RsP) (s : RsT) (h2 : s.tstate = 2) (hdir : s.dir = dirCode up)
    (hk : 100 ≤ s.pos ∧ s.pos ≤ 10100) (htg : TgOk up s.target) :
    taskStep P s =
      if beyondTg up s.pos s.target ∧ ¬ (remaining up s.pos = 0 ∧ inMargin (P.full up) (s.run up) (taskMargin P) = true) then
        relOff { s with dir := 0 }
      else s := by
  rw [taskStep_setting P s h2 (by rw [hdir]; exact dirCode_ne_zero up) (known_of_range s.pos hk), hdir]
  cases up
  · simp only [TgOk, remaining, dirCode, Bool.false_eq_true, if_false] at htg ⊢
    by_cases hb : s.pos - 100 ≥ s.target * 100
    · rw [if_pos (Or.inr ⟨trivial, hb⟩), if_neg (by omega)]
      by_cases hm : s.pos - 100 = 10000 ∧ inMargin P.fc s.downT (taskMargin P) = true
      · rw [if_pos hm, if_neg (fun h => h.2 ⟨by omega, hm.2⟩)]
      · rw [if_neg hm, if_pos ⟨hb, fun h => hm ⟨by omega, h.2⟩⟩]
    · rw [if_neg (by omega), if_neg (fun h => hb h.1)]
  · simp only [TgOk, dirCode, if_true] at htg ⊢
    by_cases hb : s.pos - 100 ≤ s.target * 100
    · rw [if_pos (Or.inl ⟨trivial, hb⟩)]
      by_cases hm : s.pos - 100 = 0 ∧ inMargin P.fo s.upT (taskMargin P) = true
      · rw [if_pos hm, if_neg (fun h => h.2 hm)]
      · rw [if_neg hm, if_neg (by omega), if_pos ⟨hb, hm⟩]
    · rw [if_neg (by omega), if_neg (fun h => hb h.1)]

theorem inMargin_bound (full t m : Nat) (h : inMargin full t m = true) : t < 10 * full * m + 10 := by
  simp only [inMargin, Bool.and_eq_true, decide_eq_true_eq] at h
  have := (Nat.div_lt_iff_lt_mul h.1).mp h.2
  rw [Nat.mul_assoc, Nat.mul_comm full m]
  omega

theorem taskStep_done (P : RsP) (s : RsT) (h2 : s.tstate = 2) (hd : s.dir = 0) (hk : known s.pos = true) :
    taskStep P s = relOff { s with tstate := 0, dir := 0 } := by
  unfold taskStep
  simp [hk, h2, hd, relOff]

theorem relReq_frame (P : RsP) (s : RsT) (w : Nat) :
    (relReq P s w).tstate = s.tstate ∧ (relReq P s w).dir = s.dir ∧ (relReq P s w).target = s.target := by
  unfold relReq
  dsimp only
  split
  · split  -- parked for the trigger
    · exact ⟨rfl, rfl, rfl⟩  -- the other output switched off first
    · exact ⟨rfl, rfl, rfl⟩
  · split  -- executed through the guard
    · exact ⟨rfl, rfl, rfl⟩  -- the other output switched off first
    · exact ⟨rfl, rfl, rfl⟩

theorem taskStep_active (up : Bool) (P : RsP) (s : RsT) (hts : s.tstate = 1) (hk : known s.pos = true)
    (hb : beforeTg up s.pos s.target) :
    taskStep P s = relReq P { s with tstate := 2, dir := dirCode up } (dirCode up) := by
  obtain ⟨_, f2, _⟩ := relReq_frame P { s with tstate := 2, dir := dirCode up } (dirCode up)
  unfold taskStep
  -- after `relReq` the direction is not 0 (`f2`), so the stage that ends the task is passed over; `hb` falsifies the test
  -- for the target in the last stage
  cases up
  · simp only [beforeTg, Bool.false_eq_true, if_false] at hb
    simp only [dirCode, Bool.false_eq_true, if_false] at f2 ⊢
    simp [hk, hts, hb, Nat.not_lt.mpr (Nat.le_of_lt hb), f2, Nat.not_le.mpr hb]
  · simp only [beforeTg, if_true] at hb
    simp only [dirCode, if_true] at f2 ⊢
    simp [hk, hts, hb, f2, Nat.not_le.mpr hb]

theorem relOff_off (s : RsT) (hr : s.rel = 0) (hp : s.pend = 0) : relOff s = s := by
  cases s; subst hr hp; rfl

/-- `guardOn` does not read `pend`, so it is written with the state before `pend` is cleared; likewise in `fireTrig_some` -/
theorem relReq_rest (P : RsP) (s : RsT) (w : Nat) (hrel : s.rel = 0) :
    relReq P s w =
      if s.sinceStop < startGate + s.lag then { s with pend := w } else { s with pend := 0, rel := guardOn P s w } := by
  unfold relReq; simp [hrel, guardOn]

theorem fireTrig_some (P : RsP) (s : RsT) (hp : s.pend ≠ 0) :
    fireTrig P s = { s with pend := 0, rel := guardOn P s s.pend } := by
  unfold fireTrig; rw [if_neg hp]; rfl

theorem guardOn_pass (up : Bool) (P : RsP) (s : RsT) (hg : ¬ (P.margin = 0 ∧ reportedPos s.pos = if up then 0 else 100)) :
    guardOn P s (dirCode up) = dirCode up := by
  unfold guardOn
  refine if_neg (fun ⟨hm, halt⟩ => hg ⟨hm, ?_⟩)
  cases up
  · rcases halt with ⟨h2, _⟩ | ⟨_, h100⟩  -- closing: the guard's test for 100 %
    · exact absurd h2 (show (1 : Nat) ≠ 2 by decide)
    · exact h100
  · rcases halt with ⟨_, h0⟩ | ⟨h1, _⟩  -- opening: the guard's test for 0 %
    · exact h0
    · exact absurd h1 (show (2 : Nat) ≠ 1 by decide)

theorem commStep_quiet (s : RsT) (dt : Nat)
    (h : (s.rel = 0 ∧ s.pend = 0) ∨ ¬ (s.comm + dt ≥ 200000 ∧ (s.upT > 600000000 ∨ s.downT > 600000000))) :
    commStep s dt = { s with comm := if s.comm + dt ≥ 200000 then 0 else s.comm + dt } := by
  unfold commStep
  by_cases hf : s.comm + dt ≥ 200000
  · rw [if_pos hf, if_pos hf]
    by_cases hx : s.upT > 600000000 ∨ s.downT > 600000000
    · rw [if_pos hx]
      rcases h with ⟨hr, hp⟩ | h
      · rw [relOff_off s hr hp]
      · exact absurd ⟨hf, hx⟩ h
    · rw [if_neg hx]
  · rw [if_neg hf, if_neg hf]

theorem commStep_cut (s : RsT) (dt : Nat) (hf : s.comm + dt ≥ 200000) (hx : s.upT > 600000000 ∨ s.downT > 600000000) :
    commStep s dt = { relOff s with comm := 0 } := by
  unfold commStep; rw [if_pos hf, if_pos hx]

theorem commTimer_lt (c dt : Nat) : (if c + dt ≥ 200000 then 0 else c + dt) < 200000 := by
  split <;> omega

theorem rsTick_notask (P : RsP) (s : RsT) (dt : Nat) (ht : s.tstate = 0) :
    rsTick P s dt = commStep (account P s dt) dt := by
  unfold rsTick
  rw [taskStep_idle P _ ((account_tstate P s dt).trans ht)]

theorem rsTick_rest (P : RsP) (s : RsT) (dt : Nat) (hr : s.rel = 0) (hp : s.pend = 0) (ht : s.tstate = 0) :
    rsTick P s dt = { s with upT := 0, downT := 0, sinceStop := s.sinceStop + dt,
                             comm := if s.comm + dt ≥ 200000 then 0 else s.comm + dt } := by
  rw [rsTick_notask P s dt ht, account_off P s dt hr,
    commStep_quiet { s with upT := 0, downT := 0, sinceStop := s.sinceStop + dt } dt (Or.inl ⟨hr, hp⟩)]

theorem rsTick_start (up : Bool) (P : RsP) (s : RsT) (dt : Nat) (hts : s.tstate = 1) (hrel : s.rel = 0)
    (hk : 100 ≤ s.pos ∧ s.pos ≤ 10100) (hb : beforeTg up s.pos s.target) :
    rsTick P s dt =
      if s.sinceStop + dt < startGate + s.lag then
        { s with upT := 0, downT := 0, sinceStop := s.sinceStop + dt, tstate := 2, dir := dirCode up, pend := dirCode up,
                 comm := if s.comm + dt ≥ 200000 then 0 else s.comm + dt }
      else
        { s with upT := 0, downT := 0, sinceStop := s.sinceStop + dt, tstate := 2, dir := dirCode up, pend := 0,
                 rel := guardOn P s (dirCode up), comm := if s.comm + dt ≥ 200000 then 0 else s.comm + dt } := by
  unfold rsTick
  rw [account_off P s dt hrel,
    taskStep_active up P { s with upT := 0, downT := 0, sinceStop := s.sinceStop + dt } hts (known_of_range s.pos hk) hb,
    relReq_rest P { s with upT := 0, downT := 0, sinceStop := s.sinceStop + dt, tstate := 2, dir := dirCode up } _ hrel]
  by_cases hg : s.sinceStop + dt < startGate + s.lag
  · rw [if_pos hg, if_pos hg, commStep_quiet _ dt (Or.inr (by simp))]
  · rw [if_neg hg, if_neg hg, commStep_quiet _ dt (Or.inr (by simp))]
    rfl

end SuplaVerif
