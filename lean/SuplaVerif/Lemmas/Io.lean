/-
  Lemmas/Io — the IN half of `srpc_iterate` in terms of the grammar; the OUT half delivers nothing.
-/
import SuplaVerif.Lemmas.Proto
import SuplaVerif.Model.Srpc

namespace SuplaVerif

/-- frames handed to the remote-call handler -/
def delivers : List Obs → List Frame
  | [] => []
  | .deliver f :: os => f :: delivers os
  | _ :: os => delivers os

@[simp] theorem delivers_nil : delivers [] = [] := rfl
@[simp] theorem delivers_append (a b : List Obs) : delivers (a ++ b) = delivers a ++ delivers b := by
  induction a with
  | nil => rfl
  | cons x xs ih => cases x <;> simp [delivers, ih]

@[simp] theorem delivers_deliver (f : Frame) (os : List Obs) :
    delivers (.deliver f :: os) = f :: delivers os := rfl
@[simp] theorem delivers_out (o : OObs) (os : List Obs) : delivers (.out o :: os) = delivers os := rfl
@[simp] theorem delivers_log (c : String) (os : List Obs) : delivers (.log c :: os) = delivers os := rfl
@[simp] theorem delivers_restart (os : List Obs) : delivers (.restart :: os) = delivers os := rfl

@[simp] theorem delivers_map_out (l : List OObs) : delivers (l.map Obs.out) = [] := by
  induction l with
  | nil => rfl
  | cons x xs ih => simp [ih]

theorem Io.run_cons (P : ProtoParams) (al : Nat → Bool) (s : Io) (sc : Bytes) (e : Ev)
    (es : List (Bytes × Ev)) :
    Io.run P al s ((sc, e) :: es) =
      ((Io.run P al (Io.step P al sc s e).1 es).1,
        (Io.step P al sc s e).2 ++ (Io.run P al (Io.step P al sc s e).1 es).2) := rfl

/-- `inHalf`, `outHalf`, `srpcIterate` return (ok, state, observations) -/
theorem Io.devIterate_in (P : ProtoParams) (sc : Bytes) (s : Io) :
    (Io.devIterate P sc s).1.i = (s.i.inHalf P sc).2.1 ∧
    delivers (Io.devIterate P sc s).2 = delivers (s.i.inHalf P sc).2.2 ∧
    ((Io.devIterate P sc s).1.dead = false → (s.i.inHalf P sc).1 = true) := by
  unfold Io.devIterate Io.srpcIterate
  simp only
  generalize s.i.inHalf P sc = ri
  obtain ⟨ok, i', o1⟩ := ri
  cases ok
  · simp
  · generalize IoOut.outHalf P (IoOut.dataWrite P s.o []).1 = ro
    obtain ⟨ok2, o', o2⟩ := ro
    cases ok2 <;> simp

/-- what a run `r` of the IN half does to the pending bytes of `i`: they are the images of what it
    delivers followed by a tail, which is what is pending afterwards if the run succeeded -/
structure InStep (P : ProtoParams) (i : IoIn) (r : Bool × IoIn × List Obs) : Prop where
  inv     : r.2.1.inb.Inv P
  staging : r.2.1.staging.length ≤ i.staging.length
  valid   : ∀ f ∈ delivers r.2.2, f.Valid P
  stream  : ∃ tail, i.inb.data ++ i.staging = Frame.enc (delivers r.2.2) ++ tail ∧
              (r.1 = true → tail = r.2.1.inb.data ++ r.2.1.staging)

theorem InStep.fail {P : ProtoParams} {i i' : IoIn} {o : List Obs} (hinv : i'.inb.Inv P)
    (hstg : i'.staging.length ≤ i.staging.length) (ho : delivers o = []) : InStep P i (false, i', o) :=
  { inv := hinv, staging := hstg, valid := by simp [ho]
    stream := ⟨i.inb.data ++ i.staging, by simp [ho, Frame.enc], fun h => by cases h⟩ }

theorem inHalf_spec (P : ProtoParams) (hP : P.WF) (hm : P.bufMin < P.bufMax) (scratch : Bytes)
    (i : IoIn) (hb : i.inb.Inv P) : InStep P i (i.inHalf P scratch) := by
  unfold IoIn.inHalf
  simp only
  have hstg : (i.staging.drop P.chunk).length ≤ i.staging.length := by simp
  -- the append step: the chunk is in the buffer, or the step fails
  generalize hra : (if (i.staging.take P.chunk).length > 0 then i.inb.append P (i.staging.take P.chunk)
    else (PRes.ok, i.inb)) = ra
  have hA : ra.2.Inv P ∧ (ra.1 = .ok → ra.2.data = i.inb.data ++ i.staging.take P.chunk) := by
    subst hra
    split
    · rcases AccBuf.append_cases P i.inb (i.staging.take P.chunk) with h | ⟨hlt, h⟩ <;> rw [h]
      · exact ⟨hb, fun h => by cases h⟩
      · exact ⟨hb.append _ hlt, fun _ => rfl⟩
    · rename_i hc
      exact ⟨hb, fun _ => by rw [List.eq_nil_of_length_eq_zero (Nat.eq_zero_of_not_pos hc)]; simp⟩
  by_cases hok : ra.1 = .ok
  case neg => rw [if_pos hok]; exact .fail hA.1 hstg rfl
  rw [if_neg (not_not_intro hok)]
  have hpend : i.inb.data ++ i.staging = ra.2.data ++ i.staging.drop P.chunk := by
    rw [hA.2 hok, List.append_assoc, List.take_append_drop]
  obtain ⟨r, b', sdp, hpop, hinv, hr⟩ := popInSdp_spec P hP hm ra.2 scratch hA.1
  rw [hpop]
  cases hph : parseHead P ra.2.data <;> rw [hph] at hr
  case needMore =>
    obtain ⟨rfl, hd, _⟩ := hr
    exact { inv := hinv, staging := hstg, valid := by simp
            stream := ⟨_, by simpa [Frame.enc] using hpend, fun _ => by rw [hd]⟩ }
  case frame f rest =>
    obtain ⟨rfl, hd, hdec⟩ := hr
    obtain ⟨hs, hv⟩ := parseHead_sound P hP _ f rest hph
    exact { inv := hinv, staging := hstg, valid := by simpa [hdec] using hv
            stream := ⟨rest ++ i.staging.drop P.chunk, by simp [hdec, Frame.enc, hpend, hs], fun _ => by rw [hd]⟩ }
  case bad | badVersion => rw [hr.1]; exact .fail hinv hstg rfl

theorem inHalf_delivers (P : ProtoParams) (scratch : Bytes) (i : IoIn) :
    delivers (i.inHalf P scratch).2.2 = [] ∨
    (∃ f, delivers (i.inHalf P scratch).2.2 = [f] ∧ (i.inHalf P scratch).1 = true) := by
  fun_cases IoIn.inHalf P scratch i
  case case2 => exact .inr ⟨_, rfl, rfl⟩  -- `popInSdp` answered ok
  all_goals exact .inl rfl  -- every other branch delivers nothing

end SuplaVerif
