/-
  Lemmas/MqttLive — a stream made of complete packets that fit the receive buffer is taken apart into exactly
  those packets, without an error, however it is cut into segments (handler never failing, no outside error).
-/
import SuplaVerif.Lemmas.MqttStream
namespace SuplaVerif.MqttRecv

variable {p : Bytes → Parsed} (hp : ParserOK p) (hok : List Bytes → Bytes → Bool) (cap : Nat)
include hp

/-- a complete packet on its own that fits the receive buffer -/
def Valid (p : Bytes → Parsed) (cap : Nat) (q : Bytes) : Prop := p q = .pkt q.length ∧ q.length ≤ cap

theorem valid_head (buf fut q rest : Bytes) (hv : p q = .pkt q.length) (h : buf ++ fut = q ++ rest) :
    if q.length ≤ buf.length then p buf = .pkt q.length ∧ buf.take q.length = q ∧ buf.drop q.length ++ fut = rest
    else p buf = .need := by
  have hq : p (buf ++ fut) = .pkt q.length := h ▸ hp.pktStable q rest _ hv
  split
  · rename_i hl
    obtain ⟨ht, hr⟩ := List.append_inj (t₁ := buf.drop q.length ++ fut)
      (by rw [← List.append_assoc, List.take_append_drop]; exact h) (List.length_take_of_le hl)
    exact ⟨by rw [← List.take_append_drop q.length buf, ht]; exact hp.pktStable q _ _ hv, ht, hr⟩
  · rename_i hl                          -- any other verdict would be final
    cases hb : p buf with
    | need => rfl
    | bad => rw [hp.badStable buf fut hb] at hq; cases hq
    | pkt n =>
      have := (hp.size buf n hb).2
      rw [hp.pktStable buf fut n hb] at hq; cases hq; omega

/-- at the head of a stream of valid packets the loop takes out the `k` that are complete in the buffer, without an error -/
theorem drain_valid (hall : ∀ hs q, hok hs q = true) (hcap : 0 < cap) (qs : List Bytes) :
    (∀ q ∈ qs, Valid p cap q) → ∀ (hs : List Bytes) (buf fut : Bytes), buf ++ fut = qs.flatten →
    ∃ k, drain p hok cap hs buf = (hs ++ qs.take k, buf.drop (qs.take k).flatten.length, false) ∧
      buf.drop (qs.take k).flatten.length ++ fut = (qs.drop k).flatten := by
  induction qs with
  | nil =>
    intro _ hs buf fut h
    obtain ⟨rfl, rfl⟩ := List.append_eq_nil_iff.mp h
    exact ⟨0, by rw [drain, hp.empty]; simp; omega, rfl⟩
  | cons q qs ih =>
    intro hv hs buf fut h
    have hvq := hv q List.mem_cons_self
    have hh := valid_head hp buf fut q qs.flatten hvq.1 h
    split at hh
    · obtain ⟨hpk, htake, hrest⟩ := hh
      obtain ⟨k, k1, k2⟩ := ih (fun q' h' => hv q' (List.mem_cons_of_mem _ h')) (hs ++ [q]) (buf.drop q.length) fut hrest
      refine ⟨k + 1, ?_, ?_⟩
      · rw [drain_pkt hp hok cap hs buf _ hpk (hall _ _), htake, k1]
        simp
      · simpa using k2
    · -- `q` is not complete yet; it fits the buffer, so the buffer is not full
      refine ⟨0, ?_, by simpa using h⟩
      have := hvq.2
      rw [drain, hh]; simp; omega

/-- the client is alive and idle; the packets handed over and those it is about to see (the kept bytes, then `fut`) make up `ps` -/
structure Live (p : Bytes → Parsed) (cap : Nat) (ps : List Bytes) (s : RState) (fut : Bytes) : Prop where
  err : s.err = false
  gap : s.gap = false
  idle : p s.buf = .need
  stream : ∃ qs : List Bytes, (∀ q ∈ qs, Valid p cap q) ∧ s.buf ++ fut = qs.flatten ∧ s.hs ++ qs = ps

-- `Live` without `idle`: a sync also follows the storing of a part, when the client is not idle
theorem sync_live (hall : ∀ hs q, hok hs q = true) (hcap : 0 < cap) (ps : List Bytes) (s : RState) (fut : Bytes)
    (he : s.err = false) (hg : s.gap = false)
    (hs : ∃ qs : List Bytes, (∀ q ∈ qs, Valid p cap q) ∧ s.buf ++ fut = qs.flatten ∧ s.hs ++ qs = ps) :
    Live p cap ps (syncStep p hok cap s) fut := by
  obtain ⟨qs, hv, h, hps⟩ := hs
  obtain ⟨k, k1, k2⟩ := drain_valid hp hok cap hall hcap qs hv s.hs s.buf fut h
  have hi := drain_idle (p := p) hok cap s.hs s.buf
  unfold syncStep
  rw [k1] at hi ⊢
  exact { err := by simp [he], gap := hg, idle := (hi rfl).1,
          stream := ⟨qs.drop k, fun q hq => hv q (List.mem_of_mem_drop hq), k2,
            by simp only; rw [List.append_assoc, List.take_append_drop, hps]⟩ }

theorem feed_live (hall : ∀ hs q, hok hs q = true) (hcap : 0 < cap) (ps : List Bytes) (s : RState) (seg : Bytes) :
    ∀ fut, Live p cap ps s (seg ++ fut) → Live p cap ps (feedLoop p hok cap s seg) fut := by
  fun_induction feedLoop p hok cap s seg with          -- cases as at `feedLoop_inv`
  | case1 s => exact fun fut h => h
  | case2 s seg hnil hz =>
    -- no room: the buffer is full, so the packet at its head is complete in it and the client was not idle
    intro fut h
    exfalso
    obtain ⟨qs, hv, hs, _⟩ := h.stream
    have hseg : 0 < seg.length := List.length_pos_iff.mpr hnil
    cases qs with
    | nil => exact hnil (List.append_eq_nil_iff.mp (List.append_eq_nil_iff.mp hs).2).1
    | cons q qs =>
      have hvq := hv q List.mem_cons_self
      have hh := valid_head hp s.buf (seg ++ fut) q qs.flatten hvq.1 hs
      rw [if_pos (by have := hvq.2; omega), h.idle] at hh
      cases hh.1
  | case3 s seg hnil hz part s' herr =>            -- excluded: the sync keeps the client alive
    intro fut h
    have hs' : Live p cap ps s' (seg.drop part ++ fut) := sync_live hp hok cap hall hcap ps _ _ h.err h.gap
      (by simpa [← List.append_assoc (seg.take part)] using h.stream)
    rw [hs'.err] at herr; cases herr
  | case4 s seg hnil hz part s' herr ih =>
    intro fut h
    exact ih fut (sync_live hp hok cap hall hcap ps _ _ h.err h.gap
      (by simpa [← List.append_assoc (seg.take part)] using h.stream))

theorem feedLoop_valid (hall : ∀ hs q, hok hs q = true) (hcap : 0 < cap) (s : RState) (seg : Bytes) :
    ∀ (A fut : Bytes) (qs : List Bytes), Inv p cap s A → s.err = false → s.gap = false →
      (∀ q ∈ qs, Valid p cap q) → s.buf ++ (seg ++ fut) = qs.flatten →
      (feedLoop p hok cap s seg).err = false ∧ (feedLoop p hok cap s seg).gap = false ∧
        ∃ qs' : List Bytes, (∀ q ∈ qs', Valid p cap q) ∧ (feedLoop p hok cap s seg).buf ++ fut = qs'.flatten := by
  intro A fut qs hinv he hg hv h
  have l := feed_live hp hok cap hall hcap _ s seg fut { err := he, gap := hg, idle := hinv.idle he, stream := ⟨qs, hv, h, rfl⟩ }
  obtain ⟨qs', v, e, _⟩ := l.stream
  exact ⟨l.err, l.gap, qs', v, e⟩

/-- no event is an error raised from outside the receive path -/
def NoExt (es : List REv) : Prop := ∀ e ∈ es, e ≠ .extErr

theorem run_live (hall : ∀ hs q, hok hs q = true) (hcap : 0 < cap) (ps : List Bytes) (es : List REv) (hne : NoExt es) :
    ∀ s, Live p cap ps s (offered es) → Live p cap ps (run p hok cap s es) [] := by
  induction es with
  | nil => exact fun s h => h
  | cons e es ih =>
    intro s h
    have ih := ih (fun e' h' => hne e' (List.mem_cons_of_mem _ h'))
    cases e with
    | seg d => rw [run, step, if_neg (by rw [h.gap]; decide)]; exact ih _ (feed_live hp hok cap hall hcap ps s d _ h)
    | sync => exact ih _ (sync_live hp hok cap hall hcap ps s _ h.err h.gap h.stream)
    | extErr => exact absurd rfl (hne .extErr List.mem_cons_self)

theorem run_valid (hall : ∀ hs q, hok hs q = true) (hcap : 0 < cap) (es : List REv) :
    NoExt es → ∀ (s : RState) (A : Bytes) (qs : List Bytes), Inv p cap s A → s.err = false → s.gap = false →
      (∀ q ∈ qs, Valid p cap q) → s.buf ++ offered es = qs.flatten →
      (run p hok cap s es).err = false ∧ (run p hok cap s es).gap = false ∧
        ∃ qs' : List Bytes, (∀ q ∈ qs', Valid p cap q) ∧ (run p hok cap s es).buf = qs'.flatten := by
  intro hne s A qs hinv he hg hv h
  have l := run_live hp hok cap hall hcap _ es hne s { err := he, gap := hg, idle := hinv.idle he, stream := ⟨qs, hv, h, rfl⟩ }
  obtain ⟨qs', v, e, _⟩ := l.stream
  exact ⟨l.err, l.gap, qs', v, by rw [← e, List.append_nil]⟩

end SuplaVerif.MqttRecv
