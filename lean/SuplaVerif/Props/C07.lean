/-
  Props/C07 — countdown and staircase timers fire once, on time, and survive a reboot.

  The remaining-time bookkeeping of one item and the adaptive period (C07.1a-1d, C07.3; no C07.2: cancellation by a newer
  command is checked on the implementation), the remaining time the callback
  publishes per channel (C07.4), which timer a request starts, the restore call included (C07.5), and what a relay
  remembers across a restart.  The sharing of the one timer between channels is checked on the implementation as well
  (tools/props/c07.py).
-/
import SuplaVerif.Model.Countdown
import SuplaVerif.Model.Relay
import SuplaVerif.Gen.Consts

namespace SuplaVerif.C07

/-- run the callback at the given (non-decreasing) instants; returns the item and the instant
    at which it finished, if it did -/
def runTicks (i : CdItem) : List Nat → CdItem × Option Nat
  | [] => (i, none)
  | t :: ts =>
    match i.tick t with
    | (i', true) => (i', some t)
    | (i', false) => runTicks i' ts

/-- the variables in which `tick` is simple: an item is due at `last + left`, and a callback that does not finish it leaves
    the due instant where it is -/
theorem tick_due (i : CdItem) (now : Nat) (hrun : i.running) (hnow : i.last ≤ now) :
    (i.last + i.left ≤ now ∧ (i.tick now).2 = true) ∨
    (now < i.last + i.left ∧ (i.tick now).2 = false ∧ (i.tick now).1.running ∧ (i.tick now).1.last = now ∧
      (i.tick now).1.last + (i.tick now).1.left = i.last + i.left) := by
  -- cases of `CdItem.tick`: 1 the remaining time has elapsed (finished), 2 it has not, 3 the item is not running
  fun_cases CdItem.tick i now
  · next h => exact .inl ⟨Nat.add_le_of_le_sub' hnow h, rfl⟩
  · next h =>
    have h := Nat.not_le.mp h
    refine .inr ⟨(Nat.sub_lt_iff_lt_add' hnow).mp h, rfl, ⟨hrun.1, Nat.sub_pos_of_lt h⟩, rfl, ?_⟩
    show now + (i.left - (now - i.last)) = i.last + i.left     -- the due instant of the new item, written out
    rw [← Nat.add_sub_assoc (Nat.le_of_lt h), Nat.add_sub_sub_cancel hnow, Nat.add_comm]
  · next h => exact absurd hrun h

theorem due_of_started {i : CdItem} {t0 d : Nat} (hinv : i.left + (i.last - t0) = d) (ht0 : t0 ≤ i.last) :
    t0 + d = i.last + i.left := by
  rw [← hinv, Nat.add_left_comm, Nat.add_sub_cancel' ht0, Nat.add_comm]

/-- **C07.1a (bookkeeping invariant)** while an item runs, remaining + elapsed = duration -/
theorem c07_tick_invariant (i : CdItem) (now t0 d : Nat) (hrun : i.channel ≠ 255) (hl : 0 < i.left)
    (hinv : i.left + (i.last - t0) = d) (ht0 : t0 ≤ i.last) (hnow : i.last ≤ now) :
    ((i.tick now).2 = true ∧ d ≤ now - t0) ∨
    ((i.tick now).2 = false ∧ (i.tick now).1.channel ≠ 255 ∧ 0 < (i.tick now).1.left ∧
      (i.tick now).1.left + ((i.tick now).1.last - t0) = d ∧ now - t0 < d ∧ (i.tick now).1.last = now) := by
  have hD := due_of_started hinv ht0
  rcases tick_due i now ⟨hrun, hl⟩ hnow with ⟨hdue, hf⟩ | ⟨hearly, hf, hr, hlast, hdue⟩
  · exact .inl ⟨hf, Nat.le_sub_of_add_le' (hD ▸ hdue)⟩
  · rw [← hD] at hearly hdue
    exact .inr ⟨hf, hr.1, hr.2, by omega, Nat.sub_lt_left_of_lt_add (Nat.le_trans ht0 hnow) hearly, hlast⟩

theorem c07_fires_at_first (ts : List Nat) (i : CdItem) (hrun : i.running)
    (hsorted : ∀ t ∈ ts, i.last ≤ t) (hchain : List.Pairwise (· ≤ ·) ts) (tf : Nat)
    (hf : (runTicks i ts).2 = some tf) :
    ∃ pre post, ts = pre ++ tf :: post ∧ (∀ t ∈ pre, t < i.last + i.left) ∧ i.last + i.left ≤ tf := by
  fun_induction runTicks i ts with
  | case1 => cases hf                                          -- no callback left
  | case2 i t ts i' heq =>                                     -- finished at `t`
    cases hf
    have := tick_due i tf hrun (hsorted tf List.mem_cons_self)
    rw [heq] at this
    exact ⟨[], ts, rfl, nofun, (this.resolve_right (fun h => nomatch h.2.1)).1⟩
  | case3 i t ts i' heq ih =>                                  -- `t` is early
    have := tick_due i t hrun (hsorted t List.mem_cons_self)
    rw [heq] at this
    obtain ⟨hearly, _, hrun', hlast', hdue'⟩ := this.resolve_left (fun h => nomatch h.2)
    have hp := List.pairwise_cons.mp hchain
    obtain ⟨pre, post, rfl, hpre, hd⟩ := ih hrun' (fun x hx => hlast' ▸ hp.1 x hx) hp.2 hf
    rw [hdue'] at hpre hd
    exact ⟨t :: pre, post, rfl, List.forall_mem_cons.mpr ⟨hearly, hpre⟩, hd⟩

/-- **C07.1b (never early, exactly at the first callback at/after d)** for every duration, start
    instant and non-decreasing callback instants: if the item finishes at `tf`, then `d ≤ tf - t0`
    and every earlier callback was before `t0 + d`. -/
theorem c07_not_early (ts : List Nat) (i : CdItem) (t0 d : Nat) (hrun : i.channel ≠ 255) (hl : 0 < i.left)
    (hinv : i.left + (i.last - t0) = d) (ht0 : t0 ≤ i.last)
    (hsorted : ∀ t ∈ ts, i.last ≤ t) (hchain : List.Pairwise (· ≤ ·) ts) (tf : Nat)
    (hf : (runTicks i ts).2 = some tf) : d ≤ tf - t0 ∧ tf ∈ ts := by
  obtain ⟨pre, post, rfl, _, h⟩ := c07_fires_at_first ts i ⟨hrun, hl⟩ hsorted hchain tf hf
  exact ⟨Nat.le_sub_of_add_le' (due_of_started hinv ht0 ▸ h), by simp⟩

/-- **C07.1c (exactly once)** a finished item is free: no later callback fires it again -/
theorem c07_once (i : CdItem) (now : Nat) (h : (i.tick now).2 = true) (later : Nat) :
    ((i.tick now).1.tick later).2 = false := by
  revert h
  fun_cases CdItem.tick i now <;> intro h
  · rfl                                        -- 1: the item is freed (channel 255), which `tick` leaves alone
  · cases h
  · cases h

/-- **C07.3 (remaining time never increases)** -/
theorem c07_monotone (i : CdItem) (now : Nat) : (i.tick now).1.left ≤ i.left := by
  fun_cases CdItem.tick i now
  · exact Nat.zero_le _
  · exact Nat.sub_le _ _
  · exact Nat.le_refl _

/-- **C07.1d (lateness bound from the period rule)** the period chosen for a remaining time `L`
    either does not overshoot (`period ≤ L`) or is the minimum period: so the callback that
    finishes the timer comes less than `minP` ms (plus scheduling jitter) after the duration. -/
theorem c07_period_overshoot (P : CdParams) (hd : 0 < P.div) (hmm : P.minP ≤ P.maxP) (L : Nat) :
    cdPeriod P L ≤ L ∨ cdPeriod P L = P.minP := by
  unfold cdPeriod
  have := Nat.div_le_self L P.div
  split
  · exact .inr rfl
  · split <;> omega

theorem c07_period_bounds (P : CdParams) (hmm : P.minP ≤ P.maxP) (L : Nat) :
    P.minP ≤ cdPeriod P L ∧ cdPeriod P L ≤ P.maxP := by
  unfold cdPeriod
  split
  · exact ⟨Nat.le_refl _, hmm⟩
  · split <;> omega

/-- constants of the source tree: 50 ms minimum period, so "no later than d + 100 ms" leaves
    50 ms for callback jitter -/
theorem c07_consts : Gen.cdParams.minP = 50 ∧ Gen.cdParams.maxP = 1000 ∧ Gen.cdParams.div = 10 := by decide

/-- non-vacuity: 120 ms from t0 = 1000 with callbacks every 50 ms: finishes at 1150 (≥ 1120) -/
example : (runTicks { channel := 3, left := 120, last := 1000 } [1050, 1100, 1150, 1200]).2 = some 1150 := by decide

theorem tickAll_length (now : Nat) (items : List CdItem) : ∀ pub, (cdTickAll now items pub).2.length = pub.length := by
  induction items with
  | nil => intro pub; rfl
  | cons i is ih =>
    intro pub
    simp only [cdTickAll]
    rw [ih]
    split <;> simp

/-- **C07.4a** the callback leaves the published value of a channel alone unless a running item belongs to it -/
theorem c07_published_untouched (now : Nat) (items : List CdItem) (c : Nat) :
    ∀ pub, (∀ i ∈ items, i.running → i.channel ≠ c) → (cdTickAll now items pub).2.getD c 0 = pub.getD c 0 := by
  induction items with
  | nil => intro pub _; rfl
  | cons i is ih =>
    intro pub h
    simp only [cdTickAll]
    rw [ih _ (fun j hj => h j (by simp [hj]))]
    by_cases hr : i.running ∧ i.channel < pub.length
    · rw [if_pos hr]
      have hne := h i (by simp) hr.1
      simp [List.getElem?_set_ne hne]
    · rw [if_neg hr]

/-- **C07.4b (published = own timer)** if no two running items share a channel (`supla_esp_countdown_timer_countdown`
    reuses the item of the channel), then after the callback the published value of the channel of every running item
    is that item's new remaining time (0 once it finished) - whatever slot of the table the item occupies -/
theorem c07_published_is_own_timer (now : Nat) (items : List CdItem) :
    ∀ pub, List.Pairwise (fun a b => a.running → b.running → a.channel ≠ b.channel) items →
    ∀ i ∈ items, i.running → i.channel < pub.length →
      (cdTickAll now items pub).2.getD i.channel 0 = (i.tick now).1.left := by
  induction items with
  | nil => intro _ _ i hi; cases hi
  | cons j js ih =>
    intro pub hp i hi hr hc
    rw [List.pairwise_cons] at hp
    simp only [cdTickAll]
    rcases List.mem_cons.mp hi with rfl | hmem
    · -- the head item: it writes, nothing behind it touches the entry
      rw [c07_published_untouched now js i.channel _ (fun k hk hkr => (hp.1 k hk hr hkr).symm), if_pos ⟨hr, hc⟩]
      simp [hc]
    · apply ih _ hp.2 i hmem hr
      split <;> simp [hc]

/-! C07.5: which timer a request starts - `DurIn` is the decision of supla_esp_gpio_relay_set_duration_timer. -/

/-- **C07.5a (restore keeps the remaining time)** the call the restore branch makes - value as saved, duration = the saved
    remaining time, which is also what is published at that moment - starts a timer of exactly the saved remaining time that
    switches back, whether or not the channel has a staircase time and whatever the countdown capability -/
theorem c07_restore_keeps_remaining (time2 left : Nat) (f : Bool) (h : 0 < left) :
    let i : DurIn := { time2 := time2, newValue := 1, dur := left, left := left, cdFlag := f }
    i.eff = left ∧ i.arms = true ∧ i.target = 0 := by
  have he : ({ time2 := time2, newValue := 1, dur := left, left := left, cdFlag := f } : DurIn).eff = left := by
    unfold DurIn.eff
    by_cases ht : time2 > 0
    · rw [if_pos ht]
      simp only
      rw [if_neg (by decide), if_neg (by omega)]
    · rw [if_neg ht]
  simp [DurIn.arms, DurIn.target, he, h]

/-- **C07.5b (a relay restored as off, or a channel without the capability, starts nothing)** -/
theorem c07_off_without_capability_no_timer (i : DurIn) (h0 : i.newValue = 0) (hf : i.cdFlag = false) : i.arms = false := by
  simp [DurIn.arms, h0, hf]

/-- **C07.5c (staircase)** on a channel with a staircase time every switch-on that is not the restore call runs exactly the
    configured time, and a switch-off runs nothing -/
theorem c07_staircase (i : DurIn) (ht : 0 < i.time2) :
    (i.newValue = 0 → i.eff = 0 ∧ i.arms = false) ∧
    (i.newValue = 1 → (i.dur = 0 ∨ i.left ≠ i.dur) → i.eff = i.time2 ∧ i.arms = true ∧ i.target = 0) := by
  refine ⟨fun h0 => ?_, fun h1 hd => ?_⟩
  · simp [DurIn.eff, DurIn.arms, ht, h0]
  · have : i.eff = i.time2 := by
      unfold DurIn.eff
      rw [if_pos ht, if_neg (by omega), if_pos hd]
    simp [DurIn.arms, DurIn.target, this, h1, ht]

/-- **C07.5d (plain channel)** without a staircase time the timer runs the requested duration, and is started exactly for
    a positive duration on a switch-on or on a channel with the countdown capability -/
theorem c07_plain_duration (i : DurIn) (ht : i.time2 = 0) :
    i.eff = i.dur ∧ (i.arms = true ↔ 0 < i.dur ∧ (i.newValue = 1 ∨ i.cdFlag = true)) := by
  have : i.eff = i.dur := by unfold DurIn.eff; rw [if_neg (by omega)]
  simp [DurIn.arms, this]

/-- **C07 (what is remembered is the logical state)** for both polarities of the wiring and every request (on, off, toggle): a relay
    with a restore flag remembers the logical level the request produced, and writing that back at boot gives the same logical
    level and the same pin level as before the restart -/
theorem c07_restore_roundtrip (c : RelayCfg) (s : RelaySt) (hi : Nat) :
    relaySaved true (wantOf c s hi) = some ((relayHiReq c s hi).logical c) ∧
    (relayRestore c (wantOf c s hi)).logical c = (relayHiReq c s hi).logical c ∧
    (relayRestore c (wantOf c s hi)).out = (relayHiReq c s hi).out := by
  unfold relaySaved relayRestore relayHiReq RelaySt.logical
  cases c.loLevel <;> simp

/-- **C07 (which restart restores)** 'restore always' brings the remembered state back after every restart; the plain restore flag only
    after a power cycle - after any other restart such a relay is off (idle pin), whatever was remembered -/
theorem c07_restore_by_reason (c : RelayCfg) (plain : Bool) (reason : Nat) (saved : Bool) :
    logicalAfterBoot c true plain reason saved = saved ∧
    logicalAfterBoot c false true 0 saved = saved ∧
    (reason ≠ 0 → logicalAfterBoot c false plain reason saved = c.loLevel) := by
  unfold logicalAfterBoot restores relayRestore RelaySt.logical
  refine ⟨by cases c.loLevel <;> simp, by cases c.loLevel <;> simp, fun h => ?_⟩
  have : (reason == 0) = false := by simpa using h
  cases c.loLevel <;> simp [this]

end SuplaVerif.C07
