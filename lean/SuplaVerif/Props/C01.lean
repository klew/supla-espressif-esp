/-
  Props/C01 — SRPC receiver delivers only genuine well-formed frames and is memory-safe.

  The property theorems read their claims off the invariant `Good`, which `run_good` carries along
  a history.  Everything is proved for every `ProtoParams` satisfying the side conditions `WF` and `bufMin < bufMax`; Gen/Consts.lean
  (regenerated from /repo on every run) instantiates them for the constants of the source.

  Quantifiers: every history = every list of events (segments of any content and size, iterate
  ticks, device calls, espconn result scripts), every content of the scratch packet `srpc->sdp`
  at every event; no bound on lengths.
-/
import SuplaVerif.Lemmas.Io
import SuplaVerif.Gen.Consts

namespace SuplaVerif.C01
open Bytes

/-- bytes of an event that the receive callback takes into the staging buffer -/
def acceptedBytes (P : ProtoParams) (s : Io) : Ev → Bytes
  | .recv d => if Io.accepts P s d then d else []
  | _ => []

/-- the byte stream accepted during a history (segments dropped by the staging-buffer bound,
    and everything after the connection died, excluded) -/
def acceptedStream (P : ProtoParams) (al : Nat → Bool) (s : Io) : List (Bytes × Ev) → Bytes
  | [] => []
  | (sc, e) :: es => acceptedBytes P s e ++ acceptedStream P al (Io.step P al sc s e).1 es

/-- all bytes the network delivered during a history -/
def offeredStream : List (Bytes × Ev) → Bytes
  | [] => []
  | (_, .recv d) :: es => d ++ offeredStream es
  | _ :: es => offeredStream es

/-- state invariant relating what was delivered (`fs`) to the accepted stream (`S`) -/
structure Good (P : ProtoParams) (s : Io) (S : Bytes) (fs : List Frame) : Prop where
  valid  : ∀ f ∈ fs, f.Valid P
  inv    : s.i.inb.Inv P
  stage  : s.i.staging.length ≤ P.stage
  stream : ∃ tail, S = Frame.enc fs ++ tail ∧ (s.dead = false → tail = s.i.inb.data ++ s.i.staging)

theorem Good.congr {P : ProtoParams} {s s' : Io} {S : Bytes} {fs : List Frame} (hg : Good P s S fs)
    (hi : s'.i = s.i) (hd : s'.dead = s.dead) : Good P s' S fs :=
  { valid := hg.valid, inv := hi ▸ hg.inv, stage := hi ▸ hg.stage, stream := by rw [hi, hd]; exact hg.stream }

theorem devIterate_good (P : ProtoParams) (hP : P.WF) (hm : P.bufMin < P.bufMax) (sc : Bytes)
    (s : Io) (S : Bytes) (fs : List Frame) (hd : s.dead = false) (hg : Good P s S fs) :
    Good P (Io.devIterate P sc s).1 S (fs ++ delivers (Io.devIterate P sc s).2) := by
  obtain ⟨hv, hinv, hst, tail, hS, htail⟩ := hg
  obtain ⟨hi, hdel, hdead⟩ := Io.devIterate_in P sc s
  obtain ⟨hinv', hstg', hv', tail', hpend, htail'⟩ := inHalf_spec P hP hm sc s.i hinv
  rw [hdel]
  exact {
    valid := fun f hf => (List.mem_append.mp hf).elim (hv f) (hv' f)
    inv := by rw [hi]; exact hinv'
    stage := by rw [hi]; omega
    stream := ⟨tail', by rw [hS, htail hd, hpend, enc_append, List.append_assoc],
      fun h => by rw [hi]; exact htail' (hdead h)⟩ }

theorem step_good (P : ProtoParams) (hP : P.WF) (hm : P.bufMin < P.bufMax) (al : Nat → Bool)
    (sc : Bytes) (s : Io) (e : Ev) (S : Bytes) (fs : List Frame) (hg : Good P s S fs) :
    Good P (Io.step P al sc s e).1 (S ++ acceptedBytes P s e) (fs ++ delivers (Io.step P al sc s e).2) := by
  unfold Io.step
  cases hd : s.dead
  case true =>
    have hacc : acceptedBytes P s e = [] := by cases e <;> simp [acceptedBytes, Io.accepts, hd]
    simpa [hacc] using hg
  rw [if_neg Bool.false_ne_true]
  cases e with
  | recv d =>
    obtain ⟨hv, hinv, hst, tail, hS, htail⟩ := hg
    simp only [acceptedBytes, Io.accepts, hd, Bool.not_false, Bool.true_and]
    fun_cases Io.recvCb P sc s d
    case case1 h0 =>  -- empty segment
      rw [List.eq_nil_of_length_eq_zero h0]
      exact { valid := by simpa using hv, inv := hinv, stage := hst, stream := ⟨tail, by simpa using hS, htail⟩ }
    case case2 h0 hfit =>  -- fits: staged, then an iterate
      rw [decide_eq_true hfit, if_pos rfl]
      refine devIterate_good P hP hm sc _ _ fs hd { valid := hv, inv := hinv, stage := ?_, stream := ?_ }
      · rw [List.length_append]; omega
      · refine ⟨tail ++ d, by rw [hS, List.append_assoc], fun _ => ?_⟩
        rw [htail hd, List.append_assoc]
    case case3 h0 hfit =>  -- does not fit: restart
      rw [decide_eq_false hfit]
      exact { valid := by simpa using hv, inv := hinv, stage := hst
              stream := ⟨tail, by simpa using hS, fun h => by cases h⟩ }
  | tick => simpa [acceptedBytes] using devIterate_good P hP hm sc s S fs hd hg
  | call c p =>
    simp only [acceptedBytes, List.append_nil, delivers_map_out]
    exact hg.congr rfl hd.symm
  | esp cs =>
    simp only [acceptedBytes, List.append_nil, delivers_nil]
    exact hg.congr rfl hd.symm

theorem run_good (P : ProtoParams) (hP : P.WF) (hm : P.bufMin < P.bufMax) (al : Nat → Bool)
    (h : List (Bytes × Ev)) (s : Io) (S : Bytes) (fs : List Frame) (hg : Good P s S fs) :
    Good P (Io.run P al s h).1 (S ++ acceptedStream P al s h) (fs ++ delivers (Io.run P al s h).2) := by
  induction h generalizing s S fs with
  | nil => simpa [Io.run, acceptedStream] using hg
  | cons x xs ih =>
    obtain ⟨sc, e⟩ := x
    rw [Io.run_cons, acceptedStream, delivers_append, ← List.append_assoc, ← List.append_assoc]
    exact ih _ _ _ (step_good P hP hm al sc s e S fs hg)

theorem init_good (P : ProtoParams) (hb : 0 < P.bufMax) (o : IoOut) :
    Good P { i := {}, o := o, dead := false } [] [] :=
  { valid := by simp, inv := AccBuf.Inv.init P hb, stage := by simp
    stream := ⟨[], by simp [Frame.enc], by simp⟩ }

theorem fresh_good (P : ProtoParams) (hP : P.WF) (hm : P.bufMin < P.bufMax) (al : Nat → Bool)
    (o : IoOut) (h : List (Bytes × Ev)) :
    Good P (Io.run P al { i := {}, o := o, dead := false } h).1
      (acceptedStream P al { i := {}, o := o, dead := false } h)
      (delivers (Io.run P al { i := {}, o := o, dead := false } h).2) := by
  simpa using run_good P hP hm al h _ [] [] (init_good P (by omega) o)

/-- **C01.1 (delivery)** For every history from a fresh connection: the packets handed to the
    handler are a prefix of the good frames of the accepted byte stream — in stream order, each at
    most once, byte-for-byte (`goodFrames` is defined on the stream alone, so the result does not
    depend on segmentation or on where iterate ticks fall). -/
theorem c01_delivery (P : ProtoParams) (hP : P.WF) (hm : P.bufMin < P.bufMax) (al : Nat → Bool)
    (o : IoOut) (h : List (Bytes × Ev)) :
    delivers (Io.run P al { i := {}, o := o, dead := false } h).2 <+:
      goodFrames P (acceptedStream P al { i := {}, o := o, dead := false } h) := by
  obtain ⟨hv, _, _, tail, hS, _⟩ := fresh_good P hP hm al o h
  unfold goodFrames
  rw [hS, goodFramesFuel_enc P hP _ hv tail _ (by
    have := enc_length_ge (delivers (Io.run P al { i := {}, o := o, dead := false } h).2)
    simp only [List.length_append]; omega)]
  exact List.prefix_append _ _

/-- **C01.1b (genuine)** every delivered packet is a valid frame whose wire image occurs in the
    accepted stream at the position after the previously delivered ones. -/
theorem c01_genuine (P : ProtoParams) (hP : P.WF) (hm : P.bufMin < P.bufMax) (al : Nat → Bool)
    (o : IoOut) (h : List (Bytes × Ev)) :
    (∀ f ∈ delivers (Io.run P al { i := {}, o := o, dead := false } h).2, f.Valid P) ∧
    ∃ tail, acceptedStream P al { i := {}, o := o, dead := false } h =
      Frame.enc (delivers (Io.run P al { i := {}, o := o, dead := false } h).2) ++ tail := by
  obtain ⟨hv, _, _, tail, hS, _⟩ := fresh_good P hP hm al o h
  exact ⟨hv, tail, hS⟩

/-- **C01.1c (complete when drained)** if the connection is alive and nothing is pending, exactly
    the good frames of the accepted stream have been delivered and the stream is their encoding. -/
theorem c01_drained (P : ProtoParams) (hP : P.WF) (hm : P.bufMin < P.bufMax) (al : Nat → Bool)
    (o : IoOut) (h : List (Bytes × Ev))
    (halive : (Io.run P al { i := {}, o := o, dead := false } h).1.dead = false)
    (hempty : (Io.run P al { i := {}, o := o, dead := false } h).1.i.inb.data = [] ∧
              (Io.run P al { i := {}, o := o, dead := false } h).1.i.staging = []) :
    acceptedStream P al { i := {}, o := o, dead := false } h =
      Frame.enc (delivers (Io.run P al { i := {}, o := o, dead := false } h).2) := by
  obtain ⟨_, _, _, tail, hS, htail⟩ := fresh_good P hP hm al o h
  have := htail halive
  rw [hempty.1, hempty.2] at this
  rw [hS, this]; simp

/-- **C01.2 (errors end the connection)** once dead (after any error) no event delivers anything
    or changes the state: no earlier packet is delivered again, nothing later is delivered. -/
theorem c01_dead_silent (P : ProtoParams) (al : Nat → Bool) (s : Io) (hd : s.dead = true)
    (h : List (Bytes × Ev)) : Io.run P al s h = (s, []) := by
  induction h with
  | nil => rfl
  | cons x xs ih =>
    rw [Io.run_cons, Io.step.eq_def, if_pos hd, ih]; rfl

/-- **C01.2b (errors are reported)** an iterate that does not succeed (malformed tag, version out
    of range, oversized or wrapped length, wrong end tag, buffer overflow) kills the connection
    and emits the restart observation; a malformed head is such a failure. -/
theorem c01_error_reported (P : ProtoParams) (sc : Bytes) (s : Io)
    (hfail : (Io.srpcIterate P sc { s with o := (s.o.dataWrite P []).1 }).1 = false) :
    (Io.devIterate P sc s).1.dead = true ∧ Obs.restart ∈ (Io.devIterate P sc s).2 := by
  unfold Io.devIterate
  simp only
  split
  · rename_i heq; rw [heq] at hfail; cases hfail
  · simp

/-- the last clause of C01.2b: with nothing staged, a buffered head that the grammar calls bad or a
    version error makes the IN half of `srpc_iterate` fail and deliver nothing -/
theorem c01_malformed_fails (P : ProtoParams) (hP : P.WF) (hm : P.bufMin < P.bufMax) (sc : Bytes)
    (i : IoIn) (hb : i.inb.Inv P) (hst : i.staging = [])
    (hbad : parseHead P i.inb.data = .bad ∨ parseHead P i.inb.data = .badVersion) :
    (i.inHalf P sc).1 = false ∧ delivers (i.inHalf P sc).2.2 = [] := by
  unfold IoIn.inHalf
  simp only [hst, List.take_nil, List.length_nil, Nat.lt_irrefl, if_false]
  obtain ⟨r, b', sdp, hpop, _, hr⟩ := popInSdp_spec P hP hm i.inb sc hb
  rw [hpop]
  rcases hbad with h | h <;> rw [h] at hr
  · rw [hr.1]; simp  -- data error
  · rw [hr.1]; simp  -- version error

/-- **C01.3 (bounds)** in every reachable state the buffered input is below the fixed receive
    limit and the staging buffer within its array. -/
theorem c01_bounds (P : ProtoParams) (hP : P.WF) (hm : P.bufMin < P.bufMax) (al : Nat → Bool)
    (o : IoOut) (h : List (Bytes × Ev)) :
    (Io.run P al { i := {}, o := o, dead := false } h).1.i.inb.data.length < P.bufMax ∧
    (Io.run P al { i := {}, o := o, dead := false } h).1.i.staging.length ≤ P.stage := by
  obtain ⟨_, hinv, hst, _⟩ := fresh_good P hP hm al o h
  exact ⟨Nat.lt_of_le_of_lt hinv.fits hinv.below, hst⟩

/-- **C01.3b (copy stays inside the packet)** whenever a packet is popped, the number of bytes
    copied into the TSuplaDataPacket is at most its size and the end tag compared lies inside the
    buffered data. -/
theorem c01_copy_in_bounds (P : ProtoParams) (d : Bytes) (f : Frame) (rest : Bytes)
    (h : parseHead P d = .frame f rest) :
    P.hdr + le32 (d.drop 14) ≤ P.hdr + P.maxData ∧ P.hdr + le32 (d.drop 14) + 5 ≤ d.length := by
  obtain ⟨_, _, _, _, hds, hlen, _⟩ := parseHead_frame_inv P d f rest h
  exact ⟨by omega, hlen⟩

/-- **C01.4 (a segment that cannot be stored ends the connection)** a segment that does not fit the
    staging buffer is reported and followed by the restart: nothing received later is parsed over the hole. -/
theorem c01_drop_reported (P : ProtoParams) (sc : Bytes) (s : Io) (d : Bytes) (h0 : d.length ≠ 0)
    (hbig : ¬ d.length ≤ P.stage - s.i.staging.length) :
    Io.recvCb P sc s d = ({ s with dead := true }, [.log "RECVOVF", .restart]) := by
  unfold Io.recvCb; rw [if_neg h0, if_neg hbig]

/-- the verdict of the grammar on a stream prefix is final: appending bytes to a stream whose head
    is a frame does not change that frame (segmentation independence of the spec itself). -/
theorem c01_frame_stable (P : ProtoParams) (hP : P.WF) (d x : Bytes) (f : Frame) (rest : Bytes)
    (h : parseHead P d = .frame f rest) : parseHead P (d ++ x) = .frame f (rest ++ x) := by
  obtain ⟨hd, hv⟩ := parseHead_sound P hP d f rest h
  rw [hd, List.append_assoc]
  exact parseHead_complete P hP f hv _

theorem c01_delivery_repo (al : Nat → Bool) (o : IoOut) (h : List (Bytes × Ev)) :
    delivers (Io.run Gen.protoParams al { i := {}, o := o, dead := false } h).2 <+:
      goodFrames Gen.protoParams (acceptedStream Gen.protoParams al { i := {}, o := o, dead := false } h) :=
  c01_delivery Gen.protoParams Gen.protoParams_wf (by decide) al o h

theorem c01_bounds_repo (al : Nat → Bool) (o : IoOut) (h : List (Bytes × Ev)) :
    (Io.run Gen.protoParams al { i := {}, o := o, dead := false } h).1.i.inb.data.length < 2048 ∧
    (Io.run Gen.protoParams al { i := {}, o := o, dead := false } h).1.i.staging.length ≤ 1024 :=
  c01_bounds Gen.protoParams Gen.protoParams_wf (by decide) al o h

/-- non-vacuity: a concrete valid frame satisfies the hypotheses and is delivered -/
example : delivers (Io.run Gen.protoParams (fun _ => true) {}
    [([], .recv (Frame.bytes ⟨23, 7, 40, [1, 2]⟩))]).2 = [⟨23, 7, 40, [1, 2]⟩] := by decide

/-- declared length 2^32-18: header size + length wraps to 0; before /repo commit 1793a77 that passed
    for a complete packet and re-delivered the old content of `srpc->sdp`; it is a data error -/
example : (Io.run Gen.protoParams (fun _ => true) {}
    [([], .recv (TAG ++ [23] ++ Bytes.toLe32 9 ++ Bytes.toLe32 9 ++ Bytes.toLe32 (4294967296 - 18) ++ TAG))]).1.dead
    = true := by decide

end SuplaVerif.C01
