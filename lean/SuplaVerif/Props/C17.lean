/-
  Props/C17 — MQTT CONNECT and command topics mean exactly what was configured and addressed: the complete password survives
  the split storage of the config form (Model/Cred) and the assembly for CONNECT; the fixed header the device packs is decoded
  to the length it was packed with; the command-topic parsers (Model/MqttTopic) act only on exactly addressed topics.
  The CONNECT packet itself, the topic grammar and the number rendering are checked on the implementation against independent
  references (tools/props/c17.py: `ref_set_on`, `ref_rs` for the topics); the command parsers and `prepareVal` are additionally
  run against their Lean models (Model/MqttTopic, Model/Mqtt) - the only link between `parserSetOn`/`parserRs` and the C.
-/
import SuplaVerif.Base.CStr
import SuplaVerif.Model.Cred
import SuplaVerif.Model.MqttTopic
import SuplaVerif.Lemmas.MqttParse

namespace SuplaVerif.C17
open Bytes

-- `Bytes.cstr_append_zero`, stated with `NoNul`
theorem cstr_noNul_append_zero (p rest : Bytes) (h : NoNul p) : cstr (p ++ 0 :: rest) = p :=
  cstr_append_zero p rest h

theorem noNul_subset {p q : Bytes} (hs : q ⊆ p) (h : NoNul p) : NoNul q :=
  fun x hx => h x (hs hx)

theorem cstr_take_prefix (p r : Bytes) (n : Nat) (h : NoNul p) (hl : p.length < n) :
    cstr ((p ++ 0 :: r).take n) = p := by
  rw [cstr_take _ n (by rw [cstr_append_zero p r h]; exact hl), cstr_append_zero p r h]

/-- **C17.2 (complete password)** for every NUL-free password that fits the two fields
    (`|pw| ≤ L + T - 1`), whatever the fields held before: assembling what was stored gives back
    exactly the password — short ones from the Password field alone, long ones from both parts,
    including the case where the tail fills its area exactly. -/
theorem c17_password_roundtrip (L T : Nat) (pw oldPass oldTail : Bytes) (hn : NoNul pw)
    (hfit : pw.length ≤ L + (T - 1)) (hT : 0 < T) :
    assemblePassword L T (storePassword L T pw oldPass oldTail).1 (storePassword L T pw oldPass oldTail).2 = pw := by
  unfold storePassword assemblePassword
  by_cases hs : pw.length < L
  · rw [if_pos hs, cstr_take_prefix pw _ L hn hs, if_pos hs]
  · rw [if_neg hs]
    -- the field holds the first L bytes; the rest fits the area with its terminator
    have hlen : (pw.take L).length = L := List.length_take_of_le (by omega)
    have hdl : (pw.drop L).length ≤ T - 1 := by rw [List.length_drop]; omega
    rw [List.take_take, Nat.min_self, cstr_of_ne_zero _ (noNul_subset (List.take_subset L pw) hn), if_neg (by omega),
      List.take_of_length_le hdl, cstr_take_prefix (pw.drop L) _ T (noNul_subset (List.drop_subset L pw) hn) (by omega),
      if_pos ⟨hT, hdl⟩]
    exact List.take_append_drop L pw

/-- with authentication disabled nothing is assembled (modelled by the caller passing no
    credentials); with a short password the tail area is never read -/
theorem c17_short_password_ignores_tail (L T : Nat) (pass tail tail' : Bytes)
    (h : (cstr (pass.take L)).length < L) :
    assemblePassword L T pass tail = assemblePassword L T pass tail' := by
  unfold assemblePassword; rw [if_pos h, if_pos h]

/-- non-vacuity: L = 4, T = 3, password "abcdef" (tail fills its area exactly) -/
example : assemblePassword 4 3 (storePassword 4 3 [97, 98, 99, 100, 101, 102] [9, 9, 9, 9] [7, 7, 7]).1
    (storePassword 4 3 [97, 98, 99, 100, 101, 102] [9, 9, 9, 9] [7, 7, 7]).2 = [97, 98, 99, 100, 101, 102] := by
  decide

/-- **C17.H (valid fixed header)** for every control type, flags and every remaining length the encoder accepts
    (below 2^28): the header the device packs is decoded by the MQTT 3.1.1 length rule (`remLen`, the same
    rule the receive side uses) to exactly that remaining length, and the packet body starts right behind it -
    in particular at the boundary 127/128 between one and two length bytes. -/
theorem c17_header_roundtrip (ty flags rem : Nat) (hdr body : Bytes) (h : packHeader ty flags rem = some hdr) :
    remLen (hdr ++ body) 5 1 0 0 = some (some (rem, hdr.length)) := by
  unfold packHeader at h
  by_cases hbig : rem ≥ 268435456
  · rw [if_pos hbig] at h; cases h
  · rw [if_neg hbig] at h
    injection h with h
    subst h
    -- the length bytes start at index 1, behind the type byte
    have := MqttRecv.remLen_encRem (b := UInt8.ofNat (ty % 16 * 16 + flags % 16) :: encRem 4 rem ++ body) (rest := body)
      (fe := 4) (n := rem) (i := 1) (shift := 0) (acc := 0) (d := 1) rfl (Nat.lt_of_not_le hbig) (by decide) (by decide)
    simpa [Nat.add_comm] using this

/-- lengths of 2^28 and more are refused -/
theorem c17_header_too_long (ty flags rem : Nat) (h : rem ≥ 268435456) : packHeader ty flags rem = none := by
  unfold packHeader; rw [if_pos h]

example : packHeader 1 0 128 = some [0x10, 0x80, 0x01] := by decide
example : packHeader 1 0 127 = some [0x10, 0x7f] := by decide

theorem splitSlash_spec : ∀ (t a r : Bytes), splitSlash t = some (a, r) ↔ (t = a ++ 47 :: r ∧ (47 : UInt8) ∉ a) := by
  intro t a r
  constructor
  · fun_induction splitSlash t generalizing a with
    | case1 => intro h; cases h                                      -- no '/'
    | case2 cs => intro h; cases h; exact ⟨rfl, List.not_mem_nil⟩    -- a '/' first
    | case3 c cs hc ih =>                                            -- another byte first
      intro h
      obtain ⟨⟨a', r'⟩, hs, he⟩ := Option.map_eq_some_iff.mp h
      cases he
      obtain ⟨h1, h2⟩ := ih a' hs
      exact ⟨by rw [h1]; rfl, fun hm => by cases hm with
        | head => exact hc rfl
        | tail _ hm => exact h2 hm⟩
  · intro ⟨ht, hn⟩
    subst ht
    induction a with
    | nil => rw [List.nil_append, splitSlash, if_pos rfl]
    | cons x xs ih =>
      rw [List.cons_append, splitSlash, if_neg (fun hx : x = 47 => hn (hx ▸ List.mem_cons_self)),
        ih (fun hm => hn (List.mem_cons_of_mem _ hm))]; rfl

theorem eq_append_of_isPrefixOf {pre t : Bytes} (h : pre.isPrefixOf t = true) : t = pre ++ t.drop pre.length :=
  (List.prefix_iff_eq_append.mp (List.isPrefixOf_iff_prefix.mp h)).symm

/-- **C17.T1 (the channel number of a topic)** the number parser accepts exactly: the prefix, a non-empty run of at most nine
    decimal digits whose value is at most 255, a '/', and hands on what follows - for every prefix and every topic -/
theorem c17_channel_grammar (pre t rest : Bytes) (n : Nat) :
    parseIntWithPrefix pre t = some (n, rest) ↔
      ∃ ds, t = pre ++ ds ++ 47 :: rest ∧ ds ≠ [] ∧ (∀ c ∈ ds, isDigB c = true) ∧ ds.length ≤ 9 ∧ decNat ds 0 = n ∧ n ≤ 255 := by
  constructor
  · fun_cases parseIntWithPrefix pre t with
    | case5 hp ds r hs hne hdig hlen hval =>          -- every check passed
      intro h
      cases h
      refine ⟨ds, ?_, hne, fun c hc => List.all_eq_true.mp (by simpa using hdig) c hc, by omega, rfl, by omega⟩
      rw [List.append_assoc, ← ((splitSlash_spec _ ds _).mp hs).1]; exact eq_append_of_isPrefixOf hp
    | _ => intro h; cases h                           -- no prefix, no '/', no digits, a non-digit, too long, above 255
  · intro ⟨ds, ht, h1, h2, h3, h4, h5⟩
    have hp : pre.isPrefixOf t = true := by
      rw [List.isPrefixOf_iff_prefix, ht, List.append_assoc]; exact List.prefix_append _ _
    have hno : (47 : UInt8) ∉ ds := fun hm => by have := h2 47 hm; simp [isDigB] at this
    have hs := (splitSlash_spec (t.drop pre.length) ds rest).mpr ⟨by rw [ht]; simp, hno⟩
    rw [parseIntWithPrefix, if_pos hp, hs]
    simp only
    rw [if_neg h1, if_neg (by simp; exact fun c hc => h2 c hc), if_neg (by omega), if_neg (by omega), h4]

-- the address part common to the command parsers; `R`: what the caller knows about the command behind it
theorem channel_topic {dev topic rest : Bytes} {ch : Nat} {R : Bytes → Prop}
    (hp : (dev.isPrefixOf topic && (topic.drop dev.length).head? == some 47) = true)
    (hpi : parseIntWithPrefix sChannels (topic.drop (dev.length + 1)) = some (ch, rest)) (hr : R rest) :
    ∃ ds cmd, topic = dev ++ 47 :: (sChannels ++ ds ++ 47 :: cmd) ∧ ds ≠ [] ∧ (∀ c ∈ ds, isDigB c = true) ∧ ds.length ≤ 9 ∧
      decNat ds 0 = ch ∧ ch ≤ 255 ∧ R cmd := by
  obtain ⟨hp1, hp2⟩ := Bool.and_eq_true_iff.mp hp
  obtain ⟨ds, e1, e2, e3, e4, e5, e6⟩ := (c17_channel_grammar sChannels _ rest ch).mp hpi
  refine ⟨ds, rest, ?_, e2, e3, e4, e5, e6, hr⟩
  rw [← e1, ← List.drop_drop]
  cases hx : topic.drop dev.length with
  | nil => rw [hx] at hp2; cases hp2
  | cons x xs =>
    have h47 : x = 47 := by simpa [hx] using hp2
    rw [List.drop_one, List.tail_cons, ← h47, ← hx]
    exact eq_append_of_isPrefixOf hp1

/-- **C17.T2 (a relay command is addressed exactly)** the relay command parser acts only on a topic that is the device prefix,
    '/', "channels/", the channel number as above, '/', and one of the two command names, with a payload that command knows -/
theorem c17_set_on_grammar (dev topic msg : Bytes) (ch v : Nat) (h : parserSetOn dev topic msg = some (ch, v)) :
    ∃ ds cmd, topic = dev ++ 47 :: (sChannels ++ ds ++ 47 :: cmd) ∧ ds ≠ [] ∧ (∀ c ∈ ds, isDigB c = true) ∧ ds.length ≤ 9 ∧
      decNat ds 0 = ch ∧ ch ≤ 255 ∧
      ((cmd = sSetOn ∧ setOnValue msg = some v) ∨ (cmd = sExec ∧ execValue msg = some v)) := by
  revert h
  fun_cases parserSetOn dev topic msg with
  | case2 _ hp c hpi =>                            -- "set/on"
    intro h
    obtain ⟨w, hw, he⟩ := Option.map_eq_some_iff.mp h
    cases he
    exact channel_topic hp hpi (Or.inl ⟨rfl, hw⟩)
  | case3 _ hp c hpi =>                            -- "execute_action"
    intro h
    obtain ⟨w, hw, he⟩ := Option.map_eq_some_iff.mp h
    cases he
    exact channel_topic hp hpi (Or.inr ⟨rfl, hw⟩)
  | _ => intro h; cases h                          -- too short, no prefix, no channel number, another command

open SuplaVerif in
/- non-vacuity: "dev/channels/12/set/on" with payload "TRUE" switches channel 12 on; 256, "1.9", "-1" and an empty number
   address nothing -/
example : parserSetOn [100, 101, 118] ([100, 101, 118, 47] ++ sChannels ++ [49, 50, 47] ++ sSetOn) [84, 82, 85, 69] = some (12, 1) := by decide
open SuplaVerif in
example : parserSetOn [100, 101, 118] ([100, 101, 118, 47] ++ sChannels ++ [50, 53, 54, 47] ++ sSetOn) [49] = none := by decide
open SuplaVerif in
example : parserSetOn [100, 101, 118] ([100, 101, 118, 47] ++ sChannels ++ [49, 46, 57, 47] ++ sSetOn) [49] = none := by decide
open SuplaVerif in
example : parserSetOn [100, 101, 118] ([100, 101, 118, 47] ++ sChannels ++ [45, 49, 47] ++ sSetOn) [49] = none := by decide
open SuplaVerif in
example : parserSetOn [100, 101, 118] ([100, 101, 118, 47] ++ sChannels ++ [47] ++ sSetOn) [49] = none := by decide

/-- a percentage payload is accepted only with a value of 0..100 -/
theorem percentOf_le (m : Bytes) (v : Nat) (h : percentOf m = some v) : v ≤ 100 := by
  revert h
  fun_cases percentOf m with
  | case1 minus w _ hc => intro h; cases h; omega       -- "-0", or 0..100 without a sign
  | _ => intro h; cases h

/-- **C17.T3 (a shutter command is addressed exactly)** the shutter command parser acts only on a topic that is the device
    prefix, '/', "channels/", the channel number, '/', and one of the three command names; percentages are 0..100 -/
theorem c17_rs_grammar (dev topic msg : Bytes) (ch a pc tl : Nat) (h : parserRs dev topic msg = some (ch, a, pc, tl)) :
    ∃ ds cmd, topic = dev ++ 47 :: (sChannels ++ ds ++ 47 :: cmd) ∧ ds ≠ [] ∧ (∀ c ∈ ds, isDigB c = true) ∧ ds.length ≤ 9 ∧
      decNat ds 0 = ch ∧ ch ≤ 255 ∧ pc ≤ 100 ∧ tl ≤ 100 ∧
      ((cmd = sClosing ∧ a = 5 ∧ percentOf msg = some pc) ∨ (cmd = sTilt ∧ a = 9 ∧ percentOf msg = some tl) ∨
       (cmd = sExec ∧ rsAction msg = some a)) := by
  revert h
  fun_cases parserRs dev topic msg with
  | case2 _ hp c hpi =>                            -- "set/closing_percentage"; refusals as in T2
    intro h
    obtain ⟨w, hw, he⟩ := Option.map_eq_some_iff.mp h
    cases he
    exact channel_topic hp hpi ⟨percentOf_le msg _ hw, Nat.zero_le _, Or.inl ⟨rfl, rfl, hw⟩⟩
  | case3 _ hp c hpi =>                            -- "set/tilt"
    intro h
    obtain ⟨w, hw, he⟩ := Option.map_eq_some_iff.mp h
    cases he
    exact channel_topic hp hpi ⟨Nat.zero_le _, percentOf_le msg _ hw, Or.inr (Or.inl ⟨rfl, rfl, hw⟩)⟩
  | case4 _ hp c hpi =>                            -- "execute_action"
    intro h
    obtain ⟨w, hw, he⟩ := Option.map_eq_some_iff.mp h
    cases he
    exact channel_topic hp hpi ⟨Nat.zero_le _, Nat.zero_le _, Or.inr (Or.inr ⟨rfl, hw⟩)⟩
  | _ => intro h; cases h

/- non-vacuity: "d/channels/7/set/closing_percentage" with "42.5" closes to 42 %; "set/tilt" with "101" is refused;
   "execute_action" with "StOp" is stop (7) -/
open SuplaVerif in
example : parserRs [100] ([100, 47] ++ sChannels ++ [55, 47] ++ sClosing) [52, 50, 46, 53] = some (7, 5, 42, 0) := by decide
open SuplaVerif in
example : parserRs [100] ([100, 47] ++ sChannels ++ [55, 47] ++ sTilt) [49, 48, 49] = none := by decide
open SuplaVerif in
example : parserRs [100] ([100, 47] ++ sChannels ++ [55, 47] ++ sExec) [83, 116, 79, 112] = some (7, 7, 0, 0) := by decide

end SuplaVerif.C17
