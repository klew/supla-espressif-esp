/-
  Props/C03 — mis-sized or out-of-range server messages are ignored without side effects.

  Part (a): the size validation of srpc_getdata, as a table regenerated from the preprocessed
  source on every run (Gen/GetData.lean).  The quantifier "every call id x every payload length x
  every field value" is discharged by a generic theorem about table rows (`c03_copy_in_bounds`,
  `c03_size_is_required`) plus a kernel-decided check of the whole finite table
  (`c03_table_safe`, `c03_dispatched_modelled`).
  Part (b), the handlers' index guards, is checked on the implementation (sanitizers + slot
  ownership monitor, tools/props/c03.py); see DESIGN.md.
-/
import SuplaVerif.Gen.GetData

namespace SuplaVerif.C03

theorem accepts_exact (sizes : List Nat) (ds : Nat) (p : Bytes) :
    (GdCheck.exact sizes).accepts ds p = some true ↔ ds ∈ sizes := by
  simp [GdCheck.accepts]

theorem accepts_valid (main item max fo fw : Nat) (sg : Bool) (ds : Nat) (p : Bytes) :
    (GdCheck.valid main item max fo fw sg).accepts ds p = some true ↔
      main - item * max ≤ ds ∧ ds ≤ main ∧ ∃ v, fieldVal p fo fw sg = some v ∧ v * item = ds - (main - item * max) := by
  simp only [GdCheck.accepts]
  cases fieldVal p fo fw sg
  · simp
  · simp [and_assoc]

/-- **C03.a1** for every table row that is `Safe`: an accepted packet is copied within the
    allocation (`memcpy(rd->data.x, sdp.data, data_size)` with `data_size ≤ alloc`), for every
    length and every payload. -/
theorem c03_copy_in_bounds (e : GdEntry) (hs : e.Safe) (ds : Nat) (p : Bytes)
    (h : e.check.accepts ds p = some true) : e.check = .noData ∨ ds ≤ e.alloc := by
  unfold GdEntry.Safe at hs
  generalize e.check = c at hs h ⊢
  cases c with
  | exact sizes => exact .inr (hs.2 ds ((accepts_exact sizes ds p).mp h))
  | valid main item max fo fw sg => exact .inr (Nat.le_trans ((accepts_valid ..).mp h).2.1 hs.1)
  | noData => exact .inl rfl
  | other => cases h

/-- **C03.a2** an accepted length is exactly the length the call type requires: one of the fixed
    structure sizes, or header + declared element count x element size with the count within
    its maximum. -/
theorem c03_size_is_required (e : GdEntry) (hs : e.Safe) (ds : Nat) (p : Bytes)
    (h : e.check.accepts ds p = some true) :
    match e.check with
    | .exact sizes => ds ∈ sizes
    | .valid main item max fo fw sg =>
        ∃ v, fieldVal p fo fw sg = some v ∧ ds = (main - item * max) + v * item ∧ v ≤ max
    | .noData => True
    | .other => False := by
  unfold GdEntry.Safe at hs
  generalize e.check = c at hs h ⊢
  cases c with
  | exact sizes => exact (accepts_exact sizes ds p).mp h
  | valid main item max fo fw sg =>
    obtain ⟨hmin, hmax, v, hv, hfield⟩ := (accepts_valid ..).mp h
    obtain ⟨_, hitems, _, hitem⟩ := hs
    -- the count is within its maximum because the length is within the structure
    have hcount : v * item ≤ max * item := by
      rw [Nat.mul_comm max item]
      omega
    have hwithin : v ≤ max := Nat.le_of_mul_le_mul_right hcount hitem
    exact ⟨v, hv, by omega, hwithin⟩
  | noData => trivial
  | other => cases h

/-- **C03.a3** a call id with no case in the switch yields DATA_ERROR (the pointer stays NULL) -/
theorem c03_unknown_id_error (tbl : List GdEntry) (c ds : Nat) (p : Bytes)
    (h : tbl.find? (fun e => e.callId == c) = none) : getdataResult tbl c ds p = some (-2) := by
  simp [getdataResult, h]

/-- **C03.a2'** a call whose size rule is one fixed size is accepted only with a payload of exactly the size of the structure
    its handler receives (the allocation): the size test and the structure cannot drift apart -/
theorem c03_single_size_is_structure (e : GdEntry) (hs : e.Safe) (n ds : Nat) (p : Bytes) (hc : e.check = .exact [n])
    (h : e.check.accepts ds p = some true) : ds = e.alloc := by
  unfold GdEntry.Safe at hs
  rw [hc] at hs h
  rw [List.mem_singleton.mp ((accepts_exact [n] ds p).mp h), List.mem_singleton.mp hs.1]

/-- **C03.a4** a packet whose length is none of the fixed sizes its call id requires yields
    DATA_ERROR, whatever it contains -/
theorem c03_mis_sized_error (tbl : List GdEntry) (e : GdEntry) (sizes : List Nat) (c ds : Nat) (p : Bytes)
    (hf : tbl.find? (fun e => e.callId == c) = some e) (hc : e.check = .exact sizes)
    (hn : ds ∉ sizes) : getdataResult tbl c ds p = some (-2) := by
  simp [getdataResult, hf, hc, GdCheck.accepts, hn]

/-- the read of the size field happens inside the part of the packet that `data_size` covers -/
theorem c03_field_inside (e : GdEntry) (hs : e.Safe) (main item max fo fw : Nat) (sg : Bool)
    (hc : e.check = .valid main item max fo fw sg) (ds : Nat) (h : main - item * max ≤ ds) :
    fo + fw ≤ ds := by
  unfold GdEntry.Safe at hs; rw [hc] at hs; omega

/-! The table of the current source tree is finite, so the facts about it are evaluated; the two larger ones (every
    dispatched id against every row, every pair of ids) by the kernel alone. -/

/-- every row of the regenerated table is `Safe` -/
theorem c03_table_safe : ∀ e ∈ Gen.getDataTable, e.Safe := by decide

/-- every call id the device dispatches to a handler has a row whose validation is modelled
    (none of them is an unmodelled shape or missing) -/
theorem c03_dispatched_modelled :
    ∀ c ∈ Gen.dispatched, ∃ e ∈ Gen.getDataTable, e.callId = c ∧ e.check ≠ .other ∧ e.check ≠ .noData := by
  decide +kernel

/-- call ids are unique in the table (the switch has no duplicate labels) -/
theorem c03_table_ids_unique : (Gen.getDataTable.map (·.callId)).Nodup := by decide +kernel

/-- non-vacuity: SET_VALUE (110) with its 17-byte structure is accepted, 16 bytes are not -/
example : getdataResult Gen.getDataTable 110 17 (List.replicate 17 0) = some 1 := by decide
example : getdataResult Gen.getDataTable 110 16 (List.replicate 16 0) = some (-2) := by decide
/-- a CALCFG request (460) declaring 3 data bytes must be 21+3 bytes long -/
example : getdataResult Gen.getDataTable 460 24
    ([0,0,0,0, 0,0,0,0, 0,0,0,0, 0, 0,0,0,0, 3,0,0,0] ++ [1,2,3]) = some 1 := by decide
example : getdataResult Gen.getDataTable 460 25
    ([0,0,0,0, 0,0,0,0, 0,0,0,0, 0, 0,0,0,0, 3,0,0,0] ++ [1,2,3,4]) = some (-2) := by decide

end SuplaVerif.C03
