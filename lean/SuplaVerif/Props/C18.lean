/-
  Props/C18 — firmware update: writes stay inside the spare slot and below the announced length;
  the image is marked for boot only with the expected footer and a verifying signature over exactly
  the image body.
-/
import SuplaVerif.Model.UpdHdr
import SuplaVerif.Gen.Consts
namespace SuplaVerif.C18

/-- bookkeeping invariant of the download -/
structure Inv (S : Nat) (u : Upd) : Prop where
  pos : u.awo + u.buffPos = u.addr + u.downloaded
  le : u.downloaded ≤ u.expected
  buf : u.buffPos < S
  base : u.addr ≤ u.awo

/-- a write lies inside [slot base, slot base + announced length) -/
def Contained (u : Upd) (w : Wr) : Prop := u.addr ≤ w.1 ∧ w.1 + w.2 ≤ u.addr + u.expected

def sumLen : List Wr → Nat
  | [] => 0
  | w :: ws => w.2 + sumLen ws

theorem sumLen_append (a b : List Wr) : sumLen (a ++ b) = sumLen a + sumLen b := by
  induction a with
  | nil => simp [sumLen]
  | cons w ws ih => simp [sumLen]; omega

/-- `FeedPost S u r` relates a state `u` to a later one and the writes in between.  It is reflexive and transitive: the loop, a
    chunk and a download are compositions of three single steps (buffering, a full sector, the partial last one). -/
structure FeedPost (S : Nat) (u : Upd) (r : Upd × List Wr) : Prop where
  inv : Inv S r.1
  addr : r.1.addr = u.addr
  exp : r.1.expected = u.expected
  mono : u.downloaded ≤ r.1.downloaded
  cont : ∀ w ∈ r.2, Contained u w
  prog : u.awo + sumLen r.2 = r.1.awo

/-- the loop over `n` bytes: `FeedPost` with the exact count `dl` in place of `mono` -/
structure LoopPost (S : Nat) (u : Upd) (n : Nat) (r : Upd × List Wr) : Prop where
  inv : Inv S r.1
  addr : r.1.addr = u.addr
  exp : r.1.expected = u.expected
  dl : r.1.downloaded = u.downloaded + n
  cont : ∀ w ∈ r.2, Contained u w
  prog : u.awo + sumLen r.2 = r.1.awo

section
variable {S : Nat} {u : Upd} {r q : Upd × List Wr} {n : Nat}

theorem FeedPost.refl (hi : Inv S u) : FeedPost S u (u, []) :=
  ⟨hi, rfl, rfl, Nat.le_refl _, nofun, rfl⟩

theorem FeedPost.trans (f : FeedPost S u r) (g : FeedPost S r.1 q) : FeedPost S u (q.1, r.2 ++ q.2) := by
  refine ⟨g.inv, g.addr.trans f.addr, g.exp.trans f.exp, Nat.le_trans f.mono g.mono, fun w hw => ?_, ?_⟩
  · rcases List.mem_append.mp hw with hw | hw
    · exact f.cont w hw
    · have := g.cont w hw
      rwa [Contained, f.addr, f.exp] at this
  · rw [sumLen_append, ← g.prog, ← f.prog, Nat.add_assoc]

theorem FeedPost.buffer (hi : Inv S u) (k : Nat) (hk : u.buffPos + k < S) (hle : u.downloaded + k ≤ u.expected) :
    FeedPost S u ({ u with buffPos := u.buffPos + k, downloaded := u.downloaded + k }, []) := by
  have := hi.pos
  exact ⟨⟨by dsimp only; omega, hle, hk, hi.base⟩, rfl, rfl, Nat.le_add_right _ _, nofun, rfl⟩

/-- a full sector in the loop (`len = S`), the partial last one at the end (`k = 0`); `len` is a parameter so that the
    statement reads as the model's `awo + S` -/
theorem FeedPost.flush (hS : 0 < S) (hi : Inv S u) (k len : Nat) (hlen : len = u.buffPos + k)
    (hle : u.downloaded + k ≤ u.expected) :
    FeedPost S u ({ u with awo := u.awo + len, buffPos := 0, downloaded := u.downloaded + k }, [(u.awo, len)]) := by
  have := hi.pos
  exact ⟨⟨by dsimp only; omega, hle, hS, by dsimp only; omega⟩, rfl, rfl, Nat.le_add_right _ _,
    fun w hw => List.mem_singleton.mp hw ▸ ⟨hi.base, by omega⟩, rfl⟩

theorem LoopPost.of (f : FeedPost S u r) (hdl : r.1.downloaded = u.downloaded + n) : LoopPost S u n r :=
  ⟨f.inv, f.addr, f.exp, hdl, f.cont, f.prog⟩

theorem LoopPost.feedPost (l : LoopPost S u n r) : FeedPost S u r :=
  ⟨l.inv, l.addr, l.exp, l.dl ▸ Nat.le_add_right _ _, l.cont, l.prog⟩

end

theorem feedLoop_post (S : Nat) (hS : 0 < S) :
    ∀ (fuel : Nat) (u : Upd) (n : Nat), n ≤ fuel → Inv S u → u.downloaded + n ≤ u.expected →
      LoopPost S u n (feedLoop S fuel u n) := by
  intro fuel u n hn hi hle
  fun_induction feedLoop S fuel u n with
  | case1 u n => cases Nat.le_zero.mp hn; exact .of (.refl hi) rfl               -- no fuel
  | case2 fuel u => exact .of (.refl hi) rfl                                     -- n = 0
  | case3 fuel u n _ hover ih =>                                                 -- overfull: a sector, then the rest
    have hb := hi.buf
    have f := FeedPost.flush hS hi (S - u.buffPos) S (by omega) (by omega)
    have r := ih (by omega) f.inv (by dsimp only; omega)
    exact .of (f.trans r.feedPost) (r.dl.trans (by dsimp only; omega))
  | case4 fuel u n _ _ hfull => exact .of (.flush hS hi n S (by omega) hle) rfl  -- exactly full
  | case5 fuel u n _ _ _ => exact .of (.buffer hi n (by omega) hle) rfl          -- buffered

/-- C18, containment of one chunk: with the chunk clamp, whatever length the server delivers, every
    flash write lies inside [slot base, slot base + announced length) -/
theorem feed_post (P : UpdParams) (hc : P.clamp = true) (hS : 0 < P.sec) (u : Upd) (n : Nat) (hi : Inv P.sec u) :
    FeedPost P.sec u (feed P u n) := by
  have hch : u.downloaded + chunk P u n ≤ u.expected := by
    unfold chunk; rw [if_pos hc]; have := hi.le; omega
  have r := (feedLoop_post P.sec hS (chunk P u n) u (chunk P u n) (Nat.le_refl _) hi hch).feedPost
  unfold feed finish
  split
  · -- everything has arrived: the partial last sector
    exact r.trans (.flush hS r.inv 0 _ rfl r.inv.le)
  · exact r

/-- a whole download: any sequence of chunk lengths -/
def feeds (P : UpdParams) : Upd → List Nat → Upd × List Wr
  | u, [] => (u, [])
  | u, n :: ns => ((feeds P (feed P u n).1 ns).1, (feed P u n).2 ++ (feeds P (feed P u n).1 ns).2)

theorem feeds_post (P : UpdParams) (hc : P.clamp = true) (hS : 0 < P.sec) :
    ∀ (ns : List Nat) (u : Upd), Inv P.sec u → FeedPost P.sec u (feeds P u ns)
  | [], _, hi => .refl hi
  | n :: ns, u, hi => (feed_post P hc hS u n hi).trans (feeds_post P hc hS ns _ (feed_post P hc hS u n hi).inv)

/-- C18 containment for every server behaviour: from the start of a download with any announced
    length, for every sequence of delivered chunk lengths (in particular one that continues after
    the announced length), all flash writes lie inside the announced part of the slot, they are
    contiguous from the slot base (total written = progress of the write address) and the received
    count never exceeds the announced length -/
theorem c18_writes_contained (P : UpdParams) (hc : P.clamp = true) (hS : 0 < P.sec) :
    ∀ (ns : List Nat) (u : Upd), Inv P.sec u →
      Inv P.sec (feeds P u ns).1 ∧ (feeds P u ns).1.addr = u.addr ∧ (feeds P u ns).1.expected = u.expected ∧
      (∀ w ∈ (feeds P u ns).2, Contained u w) ∧ u.awo + sumLen (feeds P u ns).2 = (feeds P u ns).1.awo :=
  fun ns u hi => have f := feeds_post P hc hS ns u hi; ⟨f.inv, f.addr, f.exp, f.cont, f.prog⟩

def start (addr expected : Nat) : Upd := { addr := addr, awo := addr, buffPos := 0, downloaded := 0, expected := expected }

theorem start_inv (S : Nat) (hS : 0 < S) (addr expected : Nat) : Inv S (start addr expected) :=
  ⟨rfl, Nat.zero_le _, hS, Nat.le_refl _⟩

/-- the clamp is present in /repo (extractor fact) and the sector size is positive -/
theorem c18_repo_clamp : Gen.updParams.clamp = true ∧ 0 < Gen.updParams.sec ∧ 0 < Gen.updParams.rsa := by decide

/-- without the clamp (the code before 1445f2d in /repo) a server that keeps sending writes beyond the
    announced length: announced 5000, chunks 3000 + 6000 into the upper slot of a 512+512 map (528384 = 0x81000); the second
    sector write ends at slot + 8192 -/
theorem c18_unclamped_overruns :
    ∃ w ∈ (feeds { Gen.updParams with clamp := false } (start 528384 5000) [3000, 6000]).2,
      ¬ Contained (start 528384 5000) w := by
  refine ⟨(532480, 4096), by decide, ?_⟩
  unfold Contained start; simp

/-- slot geometry check against the SDK flash layout: the spare slot with the largest accepted
    size ends at or below the end of its firmware area (`endLo` for the lower slot, `endHi` for the
    upper one: the sectors behind hold user data / system parameters) and does not overlap the
    running image (the other slot, of the same maximal size) -/
def geomOk (P : UpdParams) (endLo endHi map ubin : Nat) : Bool :=
  match slotOf P map ubin, slotOf P map (1 - ubin), limitOf P map with
  | some slot, some other, some lim =>
    decide (slot + lim ≤ (if slot < other then endLo else endHi) ∧ (slot + lim ≤ other ∨ other + lim ≤ slot))
  | _, _, _ => false

/-- for every supported flash map of /repo and both running images; SDK layout: 512+512 maps keep
    user data from 0x7C000 / system parameters from 0xFC000, 1024+1024 maps from 0xFC000 / 0x1FC000 -/
theorem c18_slot_geometry :
    (∀ map ∈ Gen.updParams.maps512, ∀ ubin ∈ [0, 1], geomOk Gen.updParams 0x7C000 0xFC000 map ubin = true) ∧
    (∀ map ∈ Gen.updParams.maps1024, ∀ ubin ∈ [0, 1], geomOk Gen.updParams 0xFC000 0x1FC000 map ubin = true) := by
  decide

/-- an unsupported map never starts a download -/
theorem c18_unsupported_map (P : UpdParams) (map n : Nat) (h1 : map ∉ P.maps512) (h2 : map ∉ P.maps1024) :
    sizeAccepted P map n = false ∧ slotOf P map 0 = none := by
  unfold sizeAccepted limitOf slotOf; simp [h1, h2]

/-- a download starts only for 0 < announced ≤ the limit of the map -/
theorem c18_size_gate (P : UpdParams) (map n : Nat) (h : sizeAccepted P map n = true) :
    ∃ l, limitOf P map = some l ∧ 0 < n ∧ n ≤ l := by
  unfold sizeAccepted at h
  cases hl : limitOf P map with
  | none => rw [hl] at h; cases h
  | some l => rw [hl] at h; exact ⟨l, rfl, by simpa using h⟩

/-- the image is marked for boot only if the footer is the expected one, announces the built-in key
    size, and the signature verification succeeded -/
theorem c18_mark_only_if (P : UpdParams) (hr : 0 < P.rsa) (footer : List Nat) (sigOk : Bool)
    (h : markBoot P footer sigOk = true) :
    sigOk = true ∧ footer.take 6 = [186, 190, 43, 237, 0, 1] ∧ footer.getD 6 0 * 256 - footer.getD 7 0 = P.rsa := by
  unfold markBoot keyBytes at h
  simp only [Bool.and_eq_true, decide_eq_true_eq] at h
  refine ⟨h.2, ?_⟩
  have hk := h.1
  split at hk
  · next hfooter => exact ⟨hfooter, hk⟩
  · omega                                      -- else `rsa - 1` key bytes, ≠ rsa by `hr`

/-- at the moment of verification (everything announced received, buffer flushed) the hash covers
    exactly the image body [base, base + announced − 16 − key size) and the signature is the key-size
    bytes right behind it, followed by the 16-byte footer -/
theorem c18_hash_exact (P : UpdParams) (u : Upd) (hi : Inv P.sec u) (hb : u.buffPos = 0) (hd : u.downloaded = u.expected)
    (hlen : 16 + P.rsa < u.expected) :
    hashedLen P u = u.expected - 16 - P.rsa ∧ u.addr + hashedLen P u + P.rsa + 16 = u.awo := by
  unfold hashedLen
  have := hi.pos
  constructor <;> omega

open Bytes

/-- decimal reading of a digit string, continuing from `acc` (not `SuplaVerif.decVal` of Model/Form, which decodes a form field) -/
def decVal : Bytes → Nat → Nat
  | [], acc => acc
  | b :: r, acc => decVal r (acc * 10 + (b.toNat - 48))

theorem decVal_mod (ds : Bytes) (a : Nat) : decVal ds (a % 2 ^ 32) % 2 ^ 32 = decVal ds a % 2 ^ 32 := by
  induction ds generalizing a with
  | nil => exact Nat.mod_mod _ _
  | cons b r ih =>
    unfold decVal
    rw [← ih (a % 2 ^ 32 * 10 + (b.toNat - 48)), ← ih (a * 10 + (b.toNat - 48)), Nat.add_mod, Nat.mod_mul_mod, ← Nat.add_mod]

theorem digit_not_eol (b : UInt8) (h : isDigit b = true) : isEol b = false := by
  cases he : isEol b
  · rfl
  · rcases Bool.or_eq_true_iff.mp he with h2 | h2 <;> (rw [eq_of_beq h2] at h; exact absurd h (by decide))

/-- **C18.H1 (the announced length is the digits of the Content-Length line)** a run of digits followed by a line
    end is read as its decimal value (as a 32-bit pattern), whatever follows the line end -/
theorem c18_digits_line (ds : Bytes) (hd : ∀ b ∈ ds, isDigit b = true) (e : UInt8) (he : isEol e = true)
    (rest : Bytes) (acc : Nat) (hacc : acc < 2 ^ 32) :
    digitsLoop (ds ++ e :: rest) acc = (decVal ds acc % 2 ^ 32, true) := by
  induction ds generalizing acc with
  | nil => simp only [List.nil_append, digitsLoop, he, if_true, decVal, Nat.mod_eq_of_lt hacc]
  | cons b r ih =>
    have hb := hd b (by simp)
    simp only [List.cons_append, digitsLoop, digit_not_eol b hb, hb, if_true, Bool.false_eq_true, if_false, decVal]
    rw [ih (fun x hx => hd x (by simp [hx])) _ (Nat.mod_lt _ (by decide)), decVal_mod]

/-- **C18.H2 (nothing behind the line end is read)** for every prefix, the digit loop gives the same result whatever
    follows the first line end: later header lines (also ones beginning with digits) cannot change the length -/
theorem c18_digits_stop_at_line_end (pre : Bytes) (e : UInt8) (he : isEol e = true) (r1 r2 : Bytes) (acc : Nat) :
    digitsLoop (pre ++ e :: r1) acc = digitsLoop (pre ++ e :: r2) acc := by
  induction pre generalizing acc with
  | nil => simp only [List.nil_append, digitsLoop, he, if_true]
  | cons b r ih => simp only [List.cons_append, digitsLoop, ih]

/-- strstr: the index found is an occurrence and the first one -/
theorem findSub_spec (pat : Bytes) (s : Bytes) (i : Nat) (h : findSub pat s = some i) :
    pat.isPrefixOf (s.drop i) = true ∧ ∀ j < i, pat.isPrefixOf (s.drop j) = false := by
  fun_induction findSub pat s generalizing i with
  | case1 hp =>                                        -- end, empty pattern: found
    cases h
    cases pat with
    | nil => exact ⟨rfl, nofun⟩
    | cons _ _ => cases hp
  | case2 => cases h                                   -- end: not found
  | case3 b bs hp => cases h; exact ⟨hp, nofun⟩        -- found here
  | case4 b bs hp ih =>                                -- found in the tail
    obtain ⟨k, hk, rfl⟩ := Option.map_eq_some_iff.mp h
    exact ⟨(ih k hk).1, fun j hj => match j with
      | 0 => Bool.eq_false_iff.mpr hp
      | j + 1 => (ih k hk).2 j (by omega)⟩

/-- **C18.H3 (gate)** the head starts a download only with the status line, the content type and a Content-Length
    present, the digit loop having reached the end of its line, and the accumulated length positive (as an int) and
    within the limit of the flash map -/
theorem c18_head_gate (H : HdrParams) (P : UpdParams) (map : Nat) (h : Bytes) (hs : (hdrScan H P map h).2 = true) :
    sizeAccepted P map (hdrScan H P map h).1 = true ∧ (hdrScan H P map h).1 < 2 ^ 31 ∧
    (findSub H.ok200 (cstr h)).isSome = true ∧ (findSub H.ctype (cstr h)).isSome = true ∧
    ∃ i, findSub H.clen (cstr h) = some i ∧
      (hdrScan H P map h).1 = (digitsLoop (h.drop (i + H.clen.length)) 0).1 ∧
      (digitsLoop (h.drop (i + H.clen.length)) 0).2 = true := by
  revert hs
  fun_cases hdrScan H P map h <;> intro hs
  · next hc i hi r =>                                  -- all three literals found
    simp only [Bool.and_eq_true, decide_eq_true_eq] at hs hc
    obtain ⟨⟨hlineEnd, hpositive⟩, hsize⟩ := hs
    obtain ⟨hstatus, hctype⟩ := hc
    exact ⟨hsize, hpositive, hstatus, hctype, i, hi, rfl, hlineEnd⟩
  · cases hs                                           -- no Content-Length
  · cases hs                                           -- no status line or content type

/-- **C18.H4 (head to flash)** composition: whatever head made the device start downloading, and whatever the server
    sends afterwards, every flash write lies inside the spare slot below the limit of the map and below the
    accumulated length -/
theorem c18_head_to_flash (H : HdrParams) (P : UpdParams) (hc : P.clamp = true) (hS : 0 < P.sec) (map slot : Nat)
    (h : Bytes) (hs : (hdrScan H P map h).2 = true) (ns : List Nat) :
    ∃ l, limitOf P map = some l ∧ (hdrScan H P map h).1 ≤ l ∧
      ∀ w ∈ (feeds P (start slot (hdrScan H P map h).1) ns).2,
        slot ≤ w.1 ∧ w.1 + w.2 ≤ slot + (hdrScan H P map h).1 ∧ w.1 + w.2 ≤ slot + l := by
  obtain ⟨l, hl, _, hle⟩ := c18_size_gate P map _ (c18_head_gate H P map h hs).1
  refine ⟨l, hl, hle, fun w hw => ?_⟩
  have := (c18_writes_contained P hc hS ns (start slot (hdrScan H P map h).1) (start_inv P.sec hS _ _)).2.2.2.1 w hw
  unfold Contained start at this
  simp only at this
  exact ⟨this.1, this.2, by omega⟩

/-- collecting the head: it is complete only with CR LF CR LF at its end and at most maxHdr-1 bytes, and what was
    collected is the bytes received so far, in order -/
theorem collect_spec (m : Nat) (acc seg : Bytes) (k : Nat) :
    (collect m acc seg k).1 = acc ++ seg.take ((collect m acc seg k).2.2 - k) ∧ k ≤ (collect m acc seg k).2.2 ∧
    ((collect m acc seg k).2.1 = 1 → endsHead (collect m acc seg k).1 = true ∧ (collect m acc seg k).1.length ≤ m - 1) := by
  fun_induction collect m acc seg k with
  | case1 acc k => simp                                -- segment used up
  | case2 acc b rest k h1 => simp                      -- head too long
  | case3 acc b rest k h1 hend => exact ⟨by simp, by simp, fun _ => ⟨hend, by simp; omega⟩⟩   -- `b` completes the head
  | case4 acc b rest k h1 _ ih =>                      -- the loop goes on
    obtain ⟨htaken, hk, hdone⟩ := ih
    refine ⟨?_, by omega, hdone⟩
    -- one more byte is taken than in the rest of the run
    rw [htaken, show (collect m (acc ++ [b]) rest (k + 1)).2.2 - k = ((collect m (acc ++ [b]) rest (k + 1)).2.2 - (k + 1)) + 1 by omega]
    simp

/-- instantiation with the literals of /repo -/
theorem c18_head_to_flash_repo (map slot : Nat) (h : Bytes) (hs : (hdrScan Gen.hdrParams Gen.updParams map h).2 = true)
    (ns : List Nat) :
    ∃ l, limitOf Gen.updParams map = some l ∧
      ∀ w ∈ (feeds Gen.updParams (start slot (hdrScan Gen.hdrParams Gen.updParams map h).1) ns).2,
        slot ≤ w.1 ∧ w.1 + w.2 ≤ slot + l := by
  obtain ⟨l, a, _, c⟩ := c18_head_to_flash Gen.hdrParams Gen.updParams c18_repo_clamp.1 c18_repo_clamp.2.1 map slot h hs ns
  exact ⟨l, a, fun w hw => ⟨(c w hw).1, (c w hw).2.2⟩⟩

/- non-vacuity of the head theorems: an ordinary head announces 100 bytes and starts the download on a 512+512 map;
    a following header line beginning with digits changes nothing; a length beyond 32 bits is taken modulo 2^32 (and
    then still gated); digits followed by letters, or another status line, start nothing -/
-- HTTP/1.1 200 OK\r\nContent-Type: application/octet-stream\r\nContent-Length: 100\r\n\r\n
set_option maxRecDepth 8000 in
example : hdrScan Gen.hdrParams Gen.updParams 2 [72, 84, 84, 80, 47, 49, 46, 49, 32, 50, 48, 48, 32, 79, 75, 13, 10, 67, 111, 110, 116, 101, 110, 116, 45, 84, 121, 112, 101, 58, 32, 97, 112, 112, 108, 105, 99, 97, 116, 105, 111, 110, 47, 111, 99, 116, 101, 116, 45, 115, 116, 114, 101, 97, 109, 13, 10, 67, 111, 110, 116, 101, 110, 116, 45, 76, 101, 110, 103, 116, 104, 58, 32, 49, 48, 48, 13, 10, 13, 10] = (100, true) := by decide +kernel
-- the head above with a further line `9999999: x`
set_option maxRecDepth 8000 in
example : hdrScan Gen.hdrParams Gen.updParams 2 [72, 84, 84, 80, 47, 49, 46, 49, 32, 50, 48, 48, 32, 79, 75, 13, 10, 67, 111, 110, 116, 101, 110, 116, 45, 84, 121, 112, 101, 58, 32, 97, 112, 112, 108, 105, 99, 97, 116, 105, 111, 110, 47, 111, 99, 116, 101, 116, 45, 115, 116, 114, 101, 97, 109, 13, 10, 67, 111, 110, 116, 101, 110, 116, 45, 76, 101, 110, 103, 116, 104, 58, 32, 49, 48, 48, 13, 10, 57, 57, 57, 57, 57, 57, 57, 58, 32, 120, 13, 10, 13, 10] = (100, true) := by decide +kernel
-- with `Content-Length: 4294967396` (2^32 + 100)
set_option maxRecDepth 8000 in
example : hdrScan Gen.hdrParams Gen.updParams 2 [72, 84, 84, 80, 47, 49, 46, 49, 32, 50, 48, 48, 32, 79, 75, 13, 10, 67, 111, 110, 116, 101, 110, 116, 45, 84, 121, 112, 101, 58, 32, 97, 112, 112, 108, 105, 99, 97, 116, 105, 111, 110, 47, 111, 99, 116, 101, 116, 45, 115, 116, 114, 101, 97, 109, 13, 10, 67, 111, 110, 116, 101, 110, 116, 45, 76, 101, 110, 103, 116, 104, 58, 32, 52, 50, 57, 52, 57, 54, 55, 51, 57, 54, 13, 10, 13, 10] = (100, true) := by decide +kernel
-- with `Content-Length: 12ab`
set_option maxRecDepth 8000 in
example : hdrScan Gen.hdrParams Gen.updParams 2 [72, 84, 84, 80, 47, 49, 46, 49, 32, 50, 48, 48, 32, 79, 75, 13, 10, 67, 111, 110, 116, 101, 110, 116, 45, 84, 121, 112, 101, 58, 32, 97, 112, 112, 108, 105, 99, 97, 116, 105, 111, 110, 47, 111, 99, 116, 101, 116, 45, 115, 116, 114, 101, 97, 109, 13, 10, 67, 111, 110, 116, 101, 110, 116, 45, 76, 101, 110, 103, 116, 104, 58, 32, 49, 50, 97, 98, 13, 10, 13, 10] = (12, false) := by decide +kernel
-- with the status line `HTTP/1.1 404 Not Found`
set_option maxRecDepth 8000 in
example : hdrScan Gen.hdrParams Gen.updParams 2 [72, 84, 84, 80, 47, 49, 46, 49, 32, 52, 48, 52, 32, 78, 111, 116, 32, 70, 111, 117, 110, 100, 13, 10, 67, 111, 110, 116, 101, 110, 116, 45, 84, 121, 112, 101, 58, 32, 97, 112, 112, 108, 105, 99, 97, 116, 105, 111, 110, 47, 111, 99, 116, 101, 116, 45, 115, 116, 114, 101, 97, 109, 13, 10, 67, 111, 110, 116, 101, 110, 116, 45, 76, 101, 110, 103, 116, 104, 58, 32, 49, 48, 48, 13, 10, 13, 10] = (0, false) := by decide +kernel
-- the first head and three body bytes: complete after its 80 bytes
set_option maxRecDepth 8000 in
example : (collect 700 [] ([72, 84, 84, 80, 47, 49, 46, 49, 32, 50, 48, 48, 32, 79, 75, 13, 10, 67, 111, 110, 116, 101, 110, 116, 45, 84, 121, 112, 101, 58, 32, 97, 112, 112, 108, 105, 99, 97, 116, 105, 111, 110, 47, 111, 99, 116, 101, 116, 45, 115, 116, 114, 101, 97, 109, 13, 10, 67, 111, 110, 116, 101, 110, 116, 45, 76, 101, 110, 103, 116, 104, 58, 32, 49, 48, 48, 13, 10, 13, 10] ++ [1, 2, 3]) 0).2 = (1, 80) := by decide +kernel

/-- non-vacuity: a complete download of 5000 bytes in chunks 3000 + 6000 (server overruns) ends
    with exactly 5000 bytes written at the slot base -/
example : (feeds Gen.updParams (start 528384 5000) [3000, 6000]).2 = [(528384, 4096), (532480, 904)] ∧
    (feeds Gen.updParams (start 528384 5000) [3000, 6000]).1.downloaded = 5000 := by decide

end SuplaVerif.C18
