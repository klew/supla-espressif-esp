/-
  Props/C12 — config mode, recalibration, factory reset need physical access or authorisation.

  Three gates, each for every input: the CALCFG server message (`calcfg`), the configuration button of the legacy input
  handling (`cbChange`, `cbTick`), and user_init at boot (`bootCfgModeBase`, `bootCfgModeMqtt`). That nothing else reaches
  these effects is checked on the implementation (tools/props/c12.py).
-/
import SuplaVerif.Model.CalCfg
import SuplaVerif.Model.CfgButton
import SuplaVerif.Gen.Consts
import SuplaVerif.Lemmas.Wrap

namespace SuplaVerif.C12

/-- **C12.1** configuration mode ⇒ enter-configuration command marked super-user authorised -/
theorem c12_enter_needs_auth (K : CalConsts) (req : CalReq) (rs : List RsChan)
    (h : (calcfg K req rs).enterCfg = true) : req.command = K.cmdEnterCfg ∧ req.auth = 1 := by
  revert h
  -- cases of `calcfg`: 1 enter-configuration, authorised; 2 not authorised; recalibrate: 3 no shutter matches,
  -- 4 not authorised, 5 done; 6 any other command
  fun_cases calcfg K req rs
  case case1 hc ha => exact fun _ => ⟨hc, ha⟩
  all_goals exact nofun   -- `enterCfg` keeps its default

/-- **C12.2** calibration discarded ⇒ recalibrate command, authorised, for a shutter on that
    channel carrying the recalibrate flag -/
theorem c12_recal_needs_auth (K : CalConsts) (req : CalReq) (rs : List RsChan) (i : Nat)
    (h : i ∈ (calcfg K req rs).recalibrated) :
    req.command = K.cmdRecalibrate ∧ req.auth ≠ 0 ∧ i ∈ matching req rs := by
  revert h
  fun_cases calcfg K req rs
  case case5 _ hc _ ha => exact fun h => ⟨hc.1, ha, h⟩
  all_goals exact nofun   -- `recalibrated` stays empty

theorem matching_spec (req : CalReq) (rs : List RsChan) (i : Nat) (h : i ∈ matching req rs) :
    ∃ r, rs[i]? = some r ∧ (r.channel : Int) = req.channel ∧ r.recalFlag = true := by
  unfold matching at h
  simp only [List.mem_filter] at h
  obtain ⟨_, h2⟩ := h
  cases hr : rs[i]? with
  | none => rw [hr] at h2; simp at h2
  | some r => rw [hr] at h2; simp at h2; exact ⟨r, rfl, h2.1, h2.2⟩

/-- **C12.3** a request that is not authorised has no effect at all, and is answered
    'unauthorised' when it is an enter-configuration or a matching recalibrate request,
    'not supported' otherwise -/
theorem c12_unauth_noop (K : CalConsts) (req : CalReq) (rs : List RsChan) (h : req.auth = 0) :
    (calcfg K req rs).enterCfg = false ∧ (calcfg K req rs).recalibrated = [] ∧
    ((calcfg K req rs).result = K.resUnauth ∨ (calcfg K req rs).result = K.resNotSupp) := by
  fun_cases calcfg K req rs
  case case1 _ ha => rw [h] at ha; cases ha
  case case5 _ _ _ ha => exact absurd h ha
  case case2 | case4 => exact ⟨rfl, rfl, .inl rfl⟩
  case case3 | case6 => exact ⟨rfl, rfl, .inr rfl⟩

/-- **C12.4** every command other than the two above is 'not supported' and has no effect -/
theorem c12_other_commands_noop (K : CalConsts) (req : CalReq) (rs : List RsChan)
    (h1 : req.command ≠ K.cmdEnterCfg) (h2 : req.command ≠ K.cmdRecalibrate) :
    calcfg K req rs = { result := K.resNotSupp } := by
  unfold calcfg
  rw [if_neg h1, if_neg (fun h => h2 h.1)]

/-- non-vacuity with the constants of the source tree -/
example : (calcfg Gen.calConsts { channel := 0, command := Gen.calConsts.cmdEnterCfg, auth := 1, dataType := 0, dataSize := 0 } []).enterCfg = true := by decide
example : (calcfg Gen.calConsts { channel := 0, command := Gen.calConsts.cmdEnterCfg, auth := 0, dataType := 0, dataSize := 0 } []).result = Gen.calConsts.resUnauth := by decide
example : (calcfg Gen.calConsts { channel := 1, command := Gen.calConsts.cmdRecalibrate, auth := 1, dataType := 0, dataSize := 0 }
    [⟨0, true⟩, ⟨1, true⟩]).recalibrated = [1] := by decide

/-- what holds between events while the device is in normal operation -/
structure CbInv (s : CbSt) : Prop where
  armedHeld : s.armed = true → s.last = true ∧ s.chgLvl = true ∧ s.chgT = s.lastAct
  counted : s.click ≤ s.streak

theorem cbInv_init : CbInv {} := ⟨(fun h => by cases h), Nat.le_refl _⟩

theorem cbClick_le_streak (c : CbCfg) (s : CbSt) (ns : Bool) (now : Nat) (h : s.click ≤ s.streak) :
    cbClick c s ns now ≤ cbStreak c s now := by
  unfold cbStreak
  fun_cases cbClick c s ns now
  case case1 hf => rw [if_pos hf]; exact Nat.le_refl 1   -- pause of 2 s: both restart at 1
  case case2 hf _ => rw [if_neg hf]; exact Nat.succ_le_succ h   -- counted
  case case3 hf _ => rw [if_neg hf]; exact Nat.le_succ_of_le h   -- not counted: only the streak grows

theorem cbChange_inv (c : CbCfg) (s : CbSt) (ns : Bool) (now : Nat) (h : CbInv s) (hno : (cbChange c s ns now).2 = false) :
    CbInv (cbChange c s ns now).1 := by
  revert hno
  fun_cases cbChange c s ns now
  case case1 => exact nofun   -- configuration mode starts
  case case2 =>
    -- only a press arms the timer; it is then the last change and the last activation
    refine fun _ => ⟨fun ha => ?_, cbClick_le_streak c s ns now h.counted⟩
    cases ns
    · cases ha
    · exact ⟨rfl, rfl, rfl⟩

theorem cbTick_inv (c : CbCfg) (s : CbSt) (now : Nat) (h : CbInv s) : CbInv (cbTick c s now).1 := by
  fun_cases cbTick c s now
  case case1 => exact ⟨nofun, Nat.zero_le _⟩   -- hold recognised: timer disarmed
  case case2 => exact h

/-- **C12.B1 (hold)** the timer callback starts configuration mode only if the last recognised change of the button was a
    press and the configured hold time (5 s) has passed since: the button has been held for that long -/
theorem c12_hold_needs_press_time (c : CbCfg) (s : CbSt) (now : Nat) (h : CbInv s) (hs : (cbTick c s now).2 = true) :
    c.onHold = true ∧ s.chgLvl = true ∧ now - s.chgT ≥ c.pressUs := by
  revert hs
  fun_cases cbTick c s now
  case case1 hc =>
    -- the firmware measures from `lastAct`, which is `chgT` while the timer is armed
    obtain ⟨harmed, -, hhold, hlong⟩ := hc
    obtain ⟨-, hpress, hsame⟩ := h.armedHeld harmed
    exact fun _ => ⟨hhold, hpress, hsame ▸ hlong⟩
  case case2 => exact nofun

/-- **C12.B2 (toggles)** a recognised change starts configuration mode only if toggling is enabled for the button and this
    is at least the tenth (`count`-th) change in a row none of which came 2 s or more after the preceding press -/
theorem c12_toggle_needs_ten (c : CbCfg) (s : CbSt) (ns : Bool) (now : Nat) (h : CbInv s) (hcount : 2 ≤ c.count)
    (hs : (cbChange c s ns now).2 = true) :
    c.onToggle = true ∧ (cbChange c s ns now).1.streak ≥ c.count ∧ now - s.lastAct < c.windowUs := by
  revert hs
  fun_cases cbChange c s ns now
  case case1 hc =>
    obtain ⟨htoggle, hten⟩ := hc
    refine fun _ => ⟨htoggle, Nat.le_trans hten (cbClick_le_streak c s ns now h.counted), Nat.lt_of_not_le fun hf => ?_⟩
    -- after a pause of 2 s the counter restarts at 1, below `count`
    rw [cbClick, if_pos hf] at hten
    omega
  case case2 => exact nofun

/-- for the constants of the source: ten changes, 5 s -/
theorem c12_button_consts : Gen.cfgBtnPressCount = 10 ∧ Gen.cfgBtnPressTimeMs = 5000 := by decide

theorem cbRun_cases (c : CbCfg) (P : CbSt → Prop) (hstep : ∀ s e, P s → (cbStep c s e).2 = false → P (cbStep c s e).1)
    (es : List CbEv) : ∀ s, P s →
    ((cbRun c s es).2 = false → P (cbRun c s es).1) ∧
    ((cbRun c s es).2 = true → ∃ s0 e, P s0 ∧ (cbStep c s0 e).2 = true) := by
  induction es with
  | nil => exact fun s h => ⟨fun _ => h, nofun⟩
  | cons e es ih =>
    intro s h
    unfold cbRun
    simp only
    cases hr : (cbStep c s e).2
    · rw [if_neg (by decide)]; exact ih _ (hstep s e h hr)
    · rw [if_pos rfl]; exact ⟨nofun, fun _ => ⟨s, e, h, hr⟩⟩

theorem cbStep_inv (c : CbCfg) (s : CbSt) (e : CbEv) (h : CbInv s) (hno : (cbStep c s e).2 = false) : CbInv (cbStep c s e).1 := by
  cases e with
  | chg ns now => exact cbChange_inv c s ns now h hno
  | tick now => exact cbTick_inv c s now h

/-- every event keeps the invariant until configuration mode starts -/
theorem cbRun_inv (c : CbCfg) (es : List CbEv) : ∀ s, CbInv s → (cbRun c s es).2 = false → CbInv (cbRun c s es).1 :=
  fun s h => (cbRun_cases c CbInv (cbStep_inv c) es s h).1

/-- **C12.B (only the two gestures start configuration mode from the button)** for every sequence of recognised changes and
    timer callbacks of a configuration button, from power-on: if configuration mode is started, then either by a callback
    while the button had been held for the configured time since its last recognised change (a press), or by a change that
    is at least the `count`-th in a row without a 2 s pause after a press -/
theorem c12_button_starts_only_by_gesture (c : CbCfg) (hcount : 2 ≤ c.count) (es : List CbEv) :
    ∀ s, CbInv s → (cbRun c s es).2 = true →
    ∃ s0 e, CbInv s0 ∧ (cbStep c s0 e).2 = true ∧
      ((∃ now, e = .tick now ∧ c.onHold = true ∧ s0.chgLvl = true ∧ now - s0.chgT ≥ c.pressUs) ∨
       (∃ ns now, e = .chg ns now ∧ c.onToggle = true ∧ (cbChange c s0 ns now).1.streak ≥ c.count ∧
          now - s0.lastAct < c.windowUs)) := by
  intro s hinv h
  obtain ⟨s0, e, h0, hr⟩ := (cbRun_cases c CbInv (cbStep_inv c) es s hinv).2 h
  refine ⟨s0, e, h0, hr, ?_⟩
  cases e with
  | chg ns now => exact .inr ⟨ns, now, rfl, c12_toggle_needs_ten c s0 ns now h0 hcount hr⟩
  | tick now => exact .inl ⟨now, rfl, c12_hold_needs_press_time c s0 now h0 hr⟩

/-- non-vacuity: a press held 5 s starts configuration mode by the callback at 5 s, not by the one at 4.98 s;
    ten presses 300 ms apart start it at the tenth when toggling is enabled -/
example :
    let c : CbCfg := { typ := 2, onHold := true, onToggle := false, pressUs := 5000000, count := 10, windowUs := 2000000 }
    (cbRun c {} [.chg true 10000000, .tick 14980000]).2 = false ∧ (cbRun c {} [.chg true 10000000, .tick 15000000]).2 = true := by
  decide
example :
    let c : CbCfg := { typ := 2, onHold := false, onToggle := true, pressUs := 5000000, count := 10, windowUs := 2000000 }
    let clicks (n : Nat) : List CbEv := (List.range n).flatMap (fun k => [.chg true (10000000 + 300000 * k), .chg false (10150000 + 300000 * k)])
    (cbRun c {} (clicks 9)).2 = false ∧ (cbRun c {} (clicks 10)).2 = true := by decide

-- `windowOverSub` / `windowOverCmp` are C19's `dueSub` / `dueCmp` applied to the readings `cnt boot last`, `cnt boot now`
/-- the window test of supla_esp_input_legacy_state_change_handling as written: `system_get_time() - last_state_change >= 2 s`
    on counter readings -/
def windowOverSub (boot last now window : Nat) : Bool := decide (subw (cnt boot now) (cnt boot last) ≥ window)
/-- the deadline form `system_get_time() >= last_state_change + 2 s` (sum taken in 32 bits) -/
def windowOverCmp (boot last now window : Nat) : Bool := decide (cnt boot now ≥ (cnt boot last + window) % W32)

/-- **C12.B3 (the toggle window is elapsed time)** for every boot value of the counter and every two instants less than
    2^32 us (71.6 min) apart, the firmware's test on counter readings is the model's test on true time: the toggle counter
    `cbClick` is therefore the same wherever the wrap falls, and C12.B2 applies to the device as it runs. -/
theorem c12_toggle_window_is_elapsed_time (boot last e window : Nat) (he : e < W32) :
    windowOverSub boot last (last + e) window = decide ((last + e) - last ≥ window) := by
  unfold windowOverSub
  rw [subw_cnt, Nat.mod_eq_of_lt he, Nat.add_sub_cancel_left]

/-- **C12.B3' (the deadline form is not)** nine quick toggles ending 5.5 s before the wrap and one more toggle 8 s later: the
    deadline form still sees the window open (the tenth "quick" toggle), the subtracting form does not. -/
theorem c12_window_by_comparison_is_boot_dependent :
    windowOverCmp (W32 - 10000000) 4500000 12500000 2000000 = false ∧
    windowOverSub (W32 - 10000000) 4500000 12500000 2000000 = true ∧
    windowOverCmp 0 4500000 12500000 2000000 = true := by decide

/-- **C12.U1 (boot with a complete configuration)** with server, Wi-Fi name and password and e-mail set (MQTT: server, Wi-Fi and -
    unless authentication is off - user name and password; not locked) user_init goes on to normal operation -/
theorem c12_boot_complete_no_cfgmode (c : BootCfg) (h1 : c.server0 = false) (h2 : c.ssid0 = false) (h3 : c.wifiPwd0 = false)
    (h4 : c.email0 = false) :
    bootCfgModeBase c = false ∧
    (c.mqttEnabled = false → bootCfgModeMqtt c = false) ∧
    (c.mqttEnabled = true → c.locked = false → (c.mqttNoAuth = true ∨ c.locPwd0 = false) → bootCfgModeMqtt c = false) := by
  refine ⟨by simp [bootCfgModeBase, h1, h2, h3, h4], fun hm => by simp [bootCfgModeMqtt, h1, h2, h3, h4, hm], fun hm hl ha => ?_⟩
  rcases ha with ha | ha <;> simp [bootCfgModeMqtt, h1, h2, h3, h4, hl, ha]

/-- **C12.U2 (configuration mode at boot only when something is missing)** if user_init starts the configuration mode, the
    server, the Wi-Fi name or password, or the account (e-mail, or location id/password with no e-mail) is empty - or, with
    MQTT, the user name / password while authentication is on, or the device is locked -/
theorem c12_boot_cfgmode_means_incomplete (c : BootCfg) :
    (bootCfgModeBase c = true → c.server0 = true ∨ c.ssid0 = true ∨ c.wifiPwd0 = true ∨ c.email0 = true) ∧
    (bootCfgModeMqtt c = true → c.server0 = true ∨ c.ssid0 = true ∨ c.wifiPwd0 = true ∨ c.email0 = true ∨
      (c.mqttEnabled = true ∧ (c.locked = true ∨ (c.mqttNoAuth = false ∧ c.locPwd0 = true)))) := by
  -- every alternative of the two tests names an empty field, a disjunct of the conclusion
  constructor
  · intro h
    simp only [bootCfgModeBase, Bool.or_eq_true, Bool.and_eq_true] at h
    rcases h with ((⟨_, hemail⟩ | hserver) | hwifi) | hssid
    · exact .inr (.inr (.inr hemail))
    · exact .inl hserver
    · exact .inr (.inr (.inl hwifi))
    · exact .inr (.inl hssid)
  · intro h
    simp only [bootCfgModeMqtt, Bool.or_eq_true, Bool.and_eq_true, Bool.not_eq_true'] at h
    rcases h with ((hnet | hmqtt) | hplain) | ⟨hm, hlocked⟩
    · rcases hnet with hssid | hwifi
      · exact .inr (.inl hssid)
      · exact .inr (.inr (.inl hwifi))
    · -- MQTT enabled: the server, or with authentication the user name / password
      obtain ⟨hm, hserver | ⟨hauth, hemail | hpwd⟩⟩ := hmqtt
      · exact .inl hserver
      · exact .inr (.inr (.inr (.inl hemail)))
      · exact .inr (.inr (.inr (.inr ⟨hm, .inr ⟨hauth, hpwd⟩⟩)))
    · -- MQTT not enabled: the server or the e-mail
      obtain ⟨-, hserver | hemail⟩ := hplain
      · exact .inl hserver
      · exact .inr (.inr (.inr (.inl hemail)))
    · exact .inr (.inr (.inr (.inr ⟨hm, .inl hlocked⟩)))

end SuplaVerif.C12
