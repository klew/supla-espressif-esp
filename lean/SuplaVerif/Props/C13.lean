/-
  Props/C13 — stored config round-trips; identity survives resets, migration, failed saves.

  The save/accept pair over NOR flash (supla_esp_cfg.c), for every record, old sector content and outcome of the erase
  and the write; the 5 -> 6 -> 7 migration as field-to-field copies regenerated from supla_esp_cfg_init.  Power loss
  inside the write, and migration and factory reset as a whole, are exercised on the implementation (tools/props/c13.py).
-/
import SuplaVerif.Model.CfgStore
import SuplaVerif.Model.Migrate
import SuplaVerif.Gen.MigrateTable
import SuplaVerif.Gen.Consts

namespace SuplaVerif.C13

theorem norWrite_erased (rec : Bytes) : norWrite (erased rec.length) rec = rec := by
  induction rec with
  | nil => rfl
  | cons x xs ih =>
    -- one step of `zipWith` over `replicate`, written out; 0xFF is core's `-1`
    show (0xFF &&& x) :: norWrite (erased xs.length) xs = x :: xs
    rw [ih, show (0xFF : UInt8) &&& x = x from UInt8.neg_one_and]

/-- **C13.1 (round trip)** a save reported as successful means both operations succeeded and the
    sector holds exactly the record — whatever it held before. -/
theorem c13_save_success_stores_record (L : CfgLayout) (sector rec : Bytes) (e w : FlashOutcome)
    (hlen : rec.length = L.recLen) (h : (cfgSave L sector rec e w).1 = true) :
    e = .ok ∧ w = .ok ∧ (cfgSave L sector rec e w).2 = rec := by
  revert h
  -- cases of `cfgSave`, here and below: 1 erase not reported done: failure, nothing written; 2 done: the report is the write's
  fun_cases cfgSave L sector rec e w
  · intro h; cases h
  · rename_i he _
    intro h
    cases Decidable.not_not.mp he
    cases of_decide_eq_true h
    refine ⟨rfl, rfl, ?_⟩
    show norWrite (erased L.recLen) rec = rec
    rw [← hlen]; exact norWrite_erased rec

/-- **C13.2 (no merged record)** if the erase does not succeed nothing is written: the sector is
    either untouched or blank — never the AND-merge of old and new (the defect repaired in /repo by 58667e6: the erase result was not checked) -/
theorem c13_failed_erase_no_merge (L : CfgLayout) (sector rec : Bytes) (e w : FlashOutcome) (he : e ≠ .ok) :
    (cfgSave L sector rec e w).1 = false ∧
    ((cfgSave L sector rec e w).2 = sector ∨ (cfgSave L sector rec e w).2 = erased L.recLen) := by
  fun_cases cfgSave L sector rec e w
  · -- what the failed erase left: the sector if it had no effect, the blank if it had
    refine ⟨rfl, ?_⟩
    cases e
    · contradiction
    · exact Or.inl rfl
    · exact Or.inr rfl
  · contradiction

/-- **C13.5b (foreign tag rejected)** a sector whose first six bytes differ from the current tag in any byte - the
    layout-version byte included - is not accepted as the current layout, whatever identity follows -/
theorem c13_foreign_tag_rejected (L : CfgLayout) (s : Bytes) (h : s.take 6 ≠ L.tag) : cfgAccept L s = false := by
  unfold cfgAccept
  have : (s.take 6 == L.tag) = false := beq_false_of_ne h
  simp [this]

/-- **C13.3 (blank is rejected)** an erased sector is never accepted as a configuration -/
theorem c13_blank_rejected (L : CfgLayout) (_ht : L.tag.length = 6) (hnb : L.tag ≠ erased 6) (hr : 6 ≤ L.recLen) :
    cfgAccept L (erased L.recLen) = false := by
  apply c13_foreign_tag_rejected
  rw [erased, List.take_replicate, Nat.min_eq_left hr]
  exact hnb.symm

/-- **C13.4 (failed save after erase ⇒ defaults)** if the erase succeeded and the write had no
    effect, the sector is blank: the next boot rejects it and generates fresh defaults -/
theorem c13_failed_write_leaves_blank (L : CfgLayout) (sector rec : Bytes) :
    cfgSave L sector rec .ok .failNoEffect = (false, erased L.recLen) := rfl

/-- **C13.5 (zero identity rejected)** a record with the right TAG but an all-zero AuthKey or
    GUID is not accepted -/
theorem c13_zero_identity_rejected (L : CfgLayout) (s : Bytes)
    (h : allZero ((s.drop 6).take L.guidLen) = true ∨ allZero ((s.drop (6 + L.guidLen)).take L.authLen) = true) :
    cfgAccept L s = false := by
  unfold cfgAccept
  rcases h with h | h <;> simp [h]

/-- non-vacuity of C13.5b with the repository's layout: 'SUPLA' followed by the unknown version 8 and a non-zero identity -/
example : cfgAccept Gen.cfgLayout ([83, 85, 80, 76, 65, 8] ++ List.replicate 40 1) = false := by decide

/-- constants of the source tree -/
theorem c13_layout : Gen.cfgLayout.tag = [83, 85, 80, 76, 65, 7] ∧ Gen.cfgLayout.guidLen = 16 ∧
    Gen.cfgLayout.authLen = 16 ∧ 38 ≤ Gen.cfgLayout.recLen := by decide

theorem c13_blank_rejected_repo : cfgAccept Gen.cfgLayout (erased Gen.cfgLayout.recLen) = false :=
  c13_blank_rejected Gen.cfgLayout (by decide) (by decide) (by decide)

/-- **C13 (RAM follows flash)** the configuration in RAM is replaced by a submitted one only if the save
    succeeded: with the copy guarded as it is in /repo (translator fact `Gen.formCommitGuarded`), for every
    old sector content, every submitted record and every outcome of the erase and the write, a save that is
    not reported successful leaves the configuration in RAM as it was; a successful one makes RAM and flash
    hold the same record. -/
theorem c13_repo_commit_guarded : Gen.formCommitGuarded = true := by decide

/-- the first half of the claim above: a save that is not reported successful leaves the configuration in RAM as it was -/
theorem c13_ram_only_if_saved (L : CfgLayout) (sector ram new : Bytes) (e w : FlashOutcome)
    (hfail : (cfgSave L sector new e w).1 = false) :
    formCommit Gen.formCommitGuarded ram new (cfgSave L sector new e w).1 = ram := by
  rw [c13_repo_commit_guarded, hfail]; rfl

/-- the second half: a successful save makes RAM and flash hold the same record -/
theorem c13_ram_equals_flash_after_save (L : CfgLayout) (sector ram new : Bytes) (e w : FlashOutcome)
    (hlen : new.length = L.recLen) (hok : (cfgSave L sector new e w).1 = true) :
    formCommit Gen.formCommitGuarded ram new (cfgSave L sector new e w).1 = (cfgSave L sector new e w).2 := by
  rw [c13_repo_commit_guarded, hok]
  obtain ⟨_, _, hflash⟩ := c13_save_success_stores_record L sector new e w hlen hok
  exact hflash.symm

theorem applyCopies_apply (A B : Rec) (cs : List FieldCopy) (f : String) (r : Rec) :
    applyCopies A B cs r f = (cs.filter (fun c => c.dst == f)).foldl
      (fun v c => ((if c.src = 0 then A else B) c.fld).take c.len ++ v.drop c.len) (r f) := by
  induction cs generalizing r with
  | nil => rfl
  | cons c cs ih =>
    unfold applyCopies
    rw [ih, List.filter_cons]
    by_cases hc : c.dst = f
    · rw [if_pos (beq_iff_eq.mpr hc), if_pos hc.symm]; rfl
    · rw [if_neg (fun h => hc (beq_iff_eq.mp h)), if_neg (fun h => hc h.symm)]

/-- a destination written by exactly one copy holds the copied part of the source field -/
theorem applyCopies_sole (A B : Rec) (cs : List FieldCopy) (f : String) (c : FieldCopy) (h : soleCopy cs f = some c) :
    ∀ r : Rec, applyCopies A B cs r f = ((if c.src = 0 then A else B) c.fld).take c.len ++ (r f).drop c.len := by
  intro r
  rw [applyCopies_apply]
  unfold soleCopy at h
  split at h
  · rename_i c' hf                      -- one copy writes `f`
    cases h
    rw [hf]; rfl
  · cases h                             -- none or several

/-- a field copied whole arrives unchanged (the new record starts zeroed / empty) -/
theorem whole_copy (A B : Rec) (cs : List FieldCopy) (dst : String) (src : Nat) (fld : String) (n : Nat)
    (h : wholeFrom cs dst src fld n = true) (hl : ((if src = 0 then A else B) fld).length = n) :
    applyCopies A B cs (fun _ => []) dst = (if src = 0 then A else B) fld := by
  revert h
  fun_cases wholeFrom cs dst src fld n <;> intro h
  · rename_i c hsole
    simp only [Bool.and_eq_true, beq_iff_eq] at h
    -- the five tests of `wholeFrom` associate to the left; used: source layout, source field, copied length
    obtain ⟨⟨⟨⟨rfl, rfl⟩, rfl⟩, _⟩, _⟩ := h
    rw [applyCopies_sole A B cs dst c hsole, List.drop_nil, List.append_nil, ← hl]
    exact List.take_length
  · cases h                             -- no sole copy

/-- **C13.M1 (what the 5 -> 6 migration of /repo keeps)** with the copy lists regenerated from supla_esp_cfg_init: in both
    branches GUID, server, Wi-Fi name and password come whole from the sector read as layout 5B (the leading fields of both
    old layouts coincide); AuthKey, e-mail and the first two values of each timing array come whole from the layout the
    branch stands for (5A: FullOpeningTime / FullClosingTime are what later layouts call Time1 / Time2) -/
theorem c13_migration_table :
    (∀ useA : Bool,
      let cs := Gen.migCommon ++ (if useA then Gen.migA else Gen.migB)
      wholeFrom cs "GUID" 1 "GUID" (copiedLen cs "GUID") = true ∧
      wholeFrom cs "Server" 1 "Server" (copiedLen cs "Server") = true ∧
      wholeFrom cs "WIFI_SSID" 1 "WIFI_SSID" (copiedLen cs "WIFI_SSID") = true ∧
      wholeFrom cs "WIFI_PWD" 1 "WIFI_PWD" (copiedLen cs "WIFI_PWD") = true ∧
      wholeFrom cs "AuthKey" (if useA then 0 else 1) "AuthKey" (copiedLen cs "AuthKey") = true ∧
      wholeFrom cs "Email" (if useA then 0 else 1) "Email" (copiedLen cs "Email") = true ∧
      wholeFrom cs "Time1" (if useA then 0 else 1) (if useA then "FullOpeningTime" else "Time1") (copiedLen cs "Time1") = true ∧
      wholeFrom cs "Time2" (if useA then 0 else 1) (if useA then "FullClosingTime" else "Time2") (copiedLen cs "Time2") = true) ∧
    Gen.mig67Kept = ["Time1[0]", "Time1[1]", "Time2[0]", "Time2[1]"] ∧
    (∀ z ∈ Gen.mig67Zeroed, z = "Time1" ∨ z = "Time2") := by decide +kernel

/-- **C13.M2 (identity survives the migration)** for every old sector content: the migrated record carries the GUID of the
    sector and the AuthKey of the layout chosen -/
theorem c13_migration_keeps_identity (A B : Rec) (useA : Bool)
    (hg : (B "GUID").length = copiedLen (Gen.migCommon ++ (if useA then Gen.migA else Gen.migB)) "GUID")
    (ha : ((if useA then A else B) "AuthKey").length = copiedLen (Gen.migCommon ++ (if useA then Gen.migA else Gen.migB)) "AuthKey") :
    migrate56 Gen.migCommon Gen.migA Gen.migB useA A B "GUID" = B "GUID" ∧
    migrate56 Gen.migCommon Gen.migA Gen.migB useA A B "AuthKey" = (if useA then A else B) "AuthKey" := by
  obtain ⟨hguid, _, _, _, hauth, _⟩ := c13_migration_table.1 useA
  -- the GUID comes from layout 5B in both branches, the AuthKey from the layout of the branch
  cases useA <;>
    exact ⟨whole_copy A B _ "GUID" 1 "GUID" _ hguid hg, whole_copy A B _ "AuthKey" _ "AuthKey" _ hauth ha⟩

/-- **C13.F1 (a factory reset keeps the identity)** in the regenerated list of what factory_defaults puts aside before zeroing the
    record and puts back afterwards, GUID, AuthKey and the tag are there with their whole field lengths -/
theorem c13_factory_keeps_identity :
    ("GUID", Gen.cfgLayout.guidLen, Gen.cfgLayout.guidLen) ∈ Gen.factoryKept ∧
    (∃ n, ("AuthKey", n, n) ∈ Gen.factoryKept ∧ 0 < n) ∧ ("TAG", 6, 6) ∈ Gen.factoryKept := by
  refine ⟨by decide, ⟨16, by decide, by decide⟩, by decide⟩

end SuplaVerif.C13
