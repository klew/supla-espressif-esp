/-
  Props/C20 — fallback DNS resolver: safe on any reply, exactly one completion callback.

  Quantifiers: every reply byte string (any length), every request length `R ≥ 14` (a request
  exists), every event sequence over {resolve, connected ok/refused, reply, disconnected,
  timeout fires, retry fires}.
-/
import SuplaVerif.Model.Dns
import SuplaVerif.Gen.Consts

namespace SuplaVerif.C20
open Bytes

theorem skipReads_lt (p : Bytes) (base len fuel a : Nat) :
    ∀ i ∈ skipReads p base len fuel a, i < base + len := by
  fun_induction skipReads p base len fuel a with
  | case1 => exact fun _ h => nomatch h             -- out of fuel
  | case2 fuel a hlt ih =>                          -- one byte read; pointer and root label end the name
    refine List.forall_mem_cons.mpr ⟨by omega, ?_⟩
    split
    · exact fun _ h => nomatch h
    · split
      · exact fun _ h => nomatch h
      · exact ih
  | case3 => exact fun _ h => nomatch h             -- past the end

theorem range_map_lt {b k n : Nat} (h : b + k ≤ n) : ∀ i ∈ (List.range k).map (b + ·), i < n := by
  intro i hi
  obtain ⟨j, hj, rfl⟩ := List.mem_map.mp hi
  have := List.mem_range.mp hj; omega

/-- **C20.1 (in bounds)** every index of the received buffer that the parser reads or writes is
    below its length — for every reply, whenever a request exists (`R ≥ 14`). -/
theorem c20_in_bounds (P : DnsParams) (R : Nat) (hR : 14 ≤ R) (p : Bytes) :
    ∀ i ∈ (dnsRecv P R p).2, i < p.length := by
  by_cases hl : p.length < R
  · unfold dnsRecv
    rw [if_pos (.inl hl), if_pos hl]
    exact nofun
  have hl := Nat.le_of_not_lt hl
  have hbase : ∀ j ∈ [0, 1, 5, 8, 9], j < p.length :=
    fun j hj => Nat.lt_of_lt_of_le ((by decide : ∀ j ∈ [0, 1, 5, 8, 9], j < 14) j hj) (Nat.le_trans hR hl)
  have hskip : ∀ i ∈ skipReads p R (p.length - R) (p.length - R) 0, i < p.length :=
    fun i hi => Nat.add_sub_cancel' hl ▸ skipReads_lt p R _ _ 0 i hi
  have hname := List.forall_mem_append.mpr ⟨hbase, hskip⟩
  -- exits of `dnsRecv`: 1 bad length prefix, 2 RCODE not 0 or no answer, 3 no room for a record behind the name,
  -- 4 not an A/IN record of 4 bytes, 5 address taken; each reads a few indices more than the one before
  fun_cases dnsRecv P R p with
  | case1 =>
    split
    · exact nofun
    · exact fun i hi => hbase i (by revert i hi; decide)       -- 0 and 1 are among the five
  | case2 => exact hbase
  | case3 => exact hname
  | case4 _ an rcode _ len a rd ha => exact List.forall_mem_append.mpr ⟨hname, range_map_lt (by omega)⟩
  | case5 _ an rcode _ len a rd ha s rd' hchk =>
    have hrecord : ∀ i ∈ rd', i < p.length := List.forall_mem_append.mpr ⟨hname, range_map_lt (by omega)⟩
    exact List.forall_mem_append.mpr ⟨hrecord, range_map_lt (by omega)⟩

/-- **C20.2 (report iff)** an address is reported exactly when the reply has a consistent length
    prefix, RCODE 0, ANCOUNT ≥ 1, and the record after the echoed question (name skipped up to a
    compression pointer or the root label) is TYPE A / CLASS IN / RDLENGTH 4 inside the buffer;
    the address is those four bytes. -/
theorem c20_report_iff (P : DnsParams) (R : Nat) (p : Bytes) (ip : Bytes) :
    (dnsRecv P R p).1 = .ok ip ↔
    (R ≤ p.length ∧ be16 p = p.length - 2 ∧ (p.getD 5 0).toNat % 16 = 0 ∧ 1 ≤ be16 (p.drop 8) ∧
     skipName p R (p.length - R) (p.length - R) 0 + P.aSuffix < p.length - R ∧
     be16 (p.drop (R + skipName p R (p.length - R) (p.length - R) 0)) = 1 ∧
     be16 ((p.drop (R + skipName p R (p.length - R) (p.length - R) 0)).drop 2) = 1 ∧
     be16 ((p.drop (R + skipName p R (p.length - R) (p.length - R) 0)).drop 8) = 4 ∧
     skipName p R (p.length - R) (p.length - R) 0 + P.aSuffix + 4 ≤ p.length - R ∧
     ip = ((p.drop (R + skipName p R (p.length - R) (p.length - R) 0)).drop P.aSuffix).take 4) := by
  -- exits as at `c20_in_bounds`; in 1-4 the verdict is not `ok` and the guard contradicts the right side
  fun_cases dnsRecv P R p with
  | case1 h =>
    exact ⟨nofun, fun ⟨hlen, hpre, _⟩ => (h.elim (Nat.not_lt.mpr hlen) (· hpre)).elim⟩
  | case2 _ an rcode h =>
    exact ⟨nofun, fun ⟨_, _, hrc, han, _⟩ => (h.elim (· hrc) (Nat.not_lt.mpr han)).elim⟩
  | case3 _ an rcode _ len a rd h =>
    exact ⟨nofun, fun ⟨_, _, _, _, hroom, _⟩ => (Nat.not_lt.mpr h hroom).elim⟩
  | case4 _ an rcode _ len a rd _ s rd' h =>
    refine ⟨nofun, fun ⟨_, _, _, _, _, htype, hclass, hrdlen, hfit, _⟩ => ?_⟩
    -- `h` speaks of the let-bound `len`, `a`, `s` of `dnsRecv`: `+zetaDelta` unfolds them
    simp +zetaDelta only at h
    omega
  | case5 h1 an rcode h2 len a rd h3 s rd' h4 =>
    simp +zetaDelta only [not_or, Nat.not_lt, Nat.not_le, Decidable.not_not] at h1 h2 h3 h4
    obtain ⟨hlen, hpre⟩ := h1
    obtain ⟨hrc, han⟩ := h2
    obtain ⟨htype, hclass, hrdlen, hfit⟩ := h4
    exact ⟨fun h => ⟨hlen, hpre, hrc, han, h3, htype, hclass, hrdlen, hrdlen ▸ hfit, (DnsVerdict.ok.inj h).symm⟩,
      fun ⟨_, _, _, _, _, _, _, _, _, hip⟩ => hip ▸ rfl⟩

/-- the name-skipping loop never runs past the end by more than the two bytes of a pointer -/
theorem skipName_le (p : Bytes) (base len fuel a : Nat) (ha : a ≤ len) :
    skipName p base len fuel a ≤ len + 1 := by
  fun_induction skipName p base len fuel a with
  | case1 => omega                             -- out of fuel
  | case2 => omega                             -- a compression pointer: two bytes on
  | case3 => omega                             -- the root label: one byte on
  | case4 fuel a h _ _ ih => exact ih h        -- any other byte: the loop goes on
  | case5 => omega                             -- past the end

def callbacks : List DnsObs → Nat
  | [] => 0
  | .callback _ :: os => 1 + callbacks os
  | _ :: os => callbacks os

theorem callbacks_append (a b : List DnsObs) : callbacks (a ++ b) = callbacks a + callbacks b := by
  induction a with
  | nil => simp [callbacks]
  | cons x xs ih => cases x <;> simp [callbacks] <;> omega

def isResolve : DnsEv → Bool
  | .resolve _ _ => true
  | _ => false

theorem run_invariant (P : DnsParams) {I : Dns → Prop} (hstep : ∀ s e, I s → I (Dns.step P s e).1) :
    ∀ (es : List DnsEv) (s : Dns), I s → I (Dns.run P s es).1
  | [], _, h => h
  | e :: es, s, h => run_invariant P hstep es _ (hstep s e h)

def Silent (o : List DnsObs) : Prop := callbacks o = 0 ∧ ∀ k, DnsObs.connect k ∉ o

/-- what an event can do to the request: nothing (`stay`); a new request gives up at once (`giveUp`) or starts its first try
    (`first`); the try under way fails (`tryEnds`: `result` decides, from a state that differs only in connection and timeout
    flags) or succeeds (`ok`); the retry timer starts the next try (`retry`).  The theorems about every event treat these six. -/
@[elab_as_elim]
theorem step_regimes (P : DnsParams) (s : Dns) (e : DnsEv) {motive : Dns × List DnsObs → Prop}
    (stay : ∀ o, Silent o → motive (s, o))
    (giveUp : ∀ s₀, isResolve e = true → s₀.pending = true → s₀.tries = P.servers → motive (Dns.result P s₀))
    (first : ∀ s₀, isResolve e = true → s₀.pending = true → s₀.retryArmed = false → s₀.tries = 0 →
      motive (Dns.doResolve P s₀))
    (tryEnds : ∀ c cl t pre, s.connOpen = true ∨ s.closing = true ∨ s.timeoutArmed = true → Silent pre →
      motive ((Dns.result P { s with connOpen := c, closing := cl, timeoutArmed := t }).1,
              pre ++ (Dns.result P { s with connOpen := c, closing := cl, timeoutArmed := t }).2))
    (ok : ∀ ip, s.connOpen = true →
      motive ({ s with success := true, ip := ip, connOpen := false, closing := true }, [.disconnect]))
    (retry : s.retryArmed = true → motive (Dns.doResolve P { s with retryArmed := false })) :
    motive (Dns.step P s e) := by
  have open_ : ∀ {b : Bool}, ¬ (!b) = true → b = true := by decide
  have open2 : ∀ {a b : Bool}, ¬ (!a && !b) = true → a = true ∨ b = true := by decide
  -- cases of `Dns.step`: 1-4 resolve (no name, name too short, no memory, sent); 5-7 connected (none open, sent, send
  -- refused); 8-11 reply (none open, fail, ignore, ok); 12-13 disconnected (none open, a try ends); 14-15 fireTimeout
  -- (armed, not); 16-17 fireRetry (armed, not)
  fun_cases Dns.step P s e
  case case1 | case2 | case3 => exact giveUp _ rfl rfl rfl
  case case4 => exact first _ rfl rfl rfl rfl
  case case5 | case6 | case8 | case10 | case12 | case15 | case17 => exact stay _ ⟨rfl, by simp⟩
  case case7 hc _ _ _ h =>
    obtain ⟨rfl, rfl⟩ := Prod.ext_iff.mp h
    exact tryEnds false true s.timeoutArmed _ (.inl (open_ hc)) ⟨rfl, by simp⟩
  case case9 hc _ => exact tryEnds s.connOpen s.closing s.timeoutArmed [] (.inl (open_ hc)) ⟨rfl, by simp⟩
  case case11 hc _ _ => exact ok _ (open_ hc)
  case case13 hc => exact tryEnds false false s.timeoutArmed [] (.imp_right .inl (open2 hc)) ⟨rfl, by simp⟩
  case case14 hc _ _ h =>
    obtain ⟨rfl, rfl⟩ := Prod.ext_iff.mp h
    exact tryEnds false (s.connOpen || s.closing) false _ (.inr (.inr hc)) ⟨rfl, by simp⟩
  case case16 hc => exact retry hc

theorem result_cb (P : DnsParams) (s : Dns) :
    (if (Dns.result P s).1.pending then 1 else 0) + callbacks (Dns.result P s).2 = if s.pending then 1 else 0 := by
  -- cases of `Dns.result`: 1 a server is left (retry armed), 2 completion, 3 nothing pending
  fun_cases Dns.result P s
  · rfl
  · next hp => rw [if_pos hp]; rfl
  · rfl

theorem doResolve_cb (P : DnsParams) (s : Dns) :
    (if (Dns.doResolve P s).1.pending then 1 else 0) + callbacks (Dns.doResolve P s).2 = if s.pending then 1 else 0 := by
  fun_cases Dns.doResolve P s <;> rfl

/-- callbacks made + "a request is pending" is conserved by every event other than a new request -/
theorem step_cb (P : DnsParams) (s : Dns) (e : DnsEv) (he : isResolve e = false) :
    (if (Dns.step P s e).1.pending then 1 else 0) + callbacks (Dns.step P s e).2 = if s.pending then 1 else 0 := by
  refine step_regimes P s e ?stay ?giveUp ?first ?tryEnds ?ok ?retry
  case stay => exact fun o ho => congrArg _ ho.1
  case giveUp | first => exact fun _ hr => Bool.noConfusion (he.symm.trans hr)
  case tryEnds =>
    intro c cl t pre _ hpre
    rw [callbacks_append, hpre.1, Nat.zero_add]
    exact result_cb P _
  case ok => exact fun _ _ => rfl
  case retry => exact fun _ => doResolve_cb P _

theorem run_cb (P : DnsParams) (es : List DnsEv) (hno : ∀ e ∈ es, isResolve e = false) (s : Dns) :
    (if (Dns.run P s es).1.pending then 1 else 0) + callbacks (Dns.run P s es).2 = if s.pending then 1 else 0 := by
  induction es generalizing s with
  | nil => rfl
  | cons e es ih =>
    have h1 := step_cb P s e (hno e (by simp))
    have h2 := ih (fun x hx => hno x (by simp [hx])) (Dns.step P s e).1
    unfold Dns.run
    simp only
    rw [callbacks_append]; omega

/-- **C20.3 (at most once)** between two resolve requests at most one completion callback is
    made, and none at all when no request is pending — for every event sequence. -/
theorem c20_at_most_once (P : DnsParams) (es : List DnsEv) (hno : ∀ e ∈ es, isResolve e = false)
    (s : Dns) : callbacks (Dns.run P s es).2 ≤ (if s.pending then 1 else 0) :=
  run_cb P es hno s ▸ Nat.le_add_left _ _

/-- case 2 of `Dns.result`, with what it leaves -/
theorem result_last (P : DnsParams) (s : Dns) (h : s.success = true ∨ P.servers ≤ s.tries) (hp : s.pending = true) :
    (Dns.result P s).2 = [.callback (if s.success then some s.ip else none)] ∧ (Dns.result P s).1.pending = false ∧
    (Dns.result P s).1.timeoutArmed = s.timeoutArmed ∧ (Dns.result P s).1.retryArmed = false := by
  fun_cases Dns.result P s
  · next hc =>
    rcases h with h | h
    · rw [hc.1] at h; cases h
    · omega
  · exact ⟨rfl, rfl, rfl, rfl⟩
  · next hn => exact absurd hp hn

/-- **C20.3b (unsendable requests fail at once)** a resolve with no name, a name shorter than
    the minimum, or a failed allocation completes immediately with exactly one failure callback,
    arms no timer and never reuses the previous request's outcome. -/
theorem c20_unsendable_fails_now (P : DnsParams) (s : Dns) (name : Option Bytes) (mallocOk : Bool)
    (h : name = none ∨ (∃ n, name = some n ∧ (cstr n).length < P.minLen ∧ P.minLen ≤ P.maxLen) ∨
         mallocOk = false) :
    (Dns.step P s (.resolve name mallocOk)).2 = [.callback none] ∧
    (Dns.step P s (.resolve name mallocOk)).1.pending = false ∧
    (Dns.step P s (.resolve name mallocOk)).1.timeoutArmed = false ∧
    (Dns.step P s (.resolve name mallocOk)).1.retryArmed = false := by
  unfold Dns.step
  -- `resolve` sets `pending` and `tries := P.servers` first: wherever it gives up, `result` completes the request
  cases name with
  | none => exact result_last P _ (.inr (Nat.le_refl _)) rfl
  | some n =>
    simp only
    split
    · exact result_last P _ (.inr (Nat.le_refl _)) rfl          -- name too short
    · split
      · exact result_last P _ (.inr (Nat.le_refl _)) rfl        -- no memory
      · next hlen hm =>                                         -- sent: excluded by `h`
        rcases h with h | ⟨_, h, hlt, _⟩ | h
        · cases h
        · cases h; exact absurd (Nat.lt_of_le_of_lt (Nat.min_le_left _ _) hlt) hlen
        · subst h; exact absurd rfl hm

/-- state invariant: a pending request always has a timer armed (so it cannot hang), the retry
    timer is armed only while servers remain, and the try counter never exceeds their number -/
def Inv (P : DnsParams) (s : Dns) : Prop :=
  (s.pending = true → s.timeoutArmed = true ∨ s.retryArmed = true) ∧
  (s.retryArmed = true → s.tries < P.servers) ∧ s.tries ≤ P.servers

theorem result_inv (P : DnsParams) (s : Dns) (htries : s.tries ≤ P.servers) : Inv P (Dns.result P s).1 := by
  fun_cases Dns.result P s
  · next h => exact ⟨fun _ => .inr rfl, fun _ => h.2, htries⟩
  · exact ⟨Bool.noConfusion, Bool.noConfusion, htries⟩
  · next hp => exact ⟨fun h => absurd h hp, Bool.noConfusion, htries⟩

theorem doResolve_inv (P : DnsParams) (s : Dns) (hretry : s.retryArmed = true → s.tries + 1 < P.servers)
    (htries : s.tries < P.servers) : Inv P (Dns.doResolve P s).1 := by
  fun_cases Dns.doResolve P s <;> exact ⟨fun _ => .inl rfl, hretry, htries⟩

theorem c20_inv_step (P : DnsParams) (hp : 1 ≤ P.servers) (s : Dns) (e : DnsEv) (hi : Inv P s) :
    Inv P (Dns.step P s e).1 := by
  have ⟨_, hretry, htries⟩ := hi
  refine step_regimes P s e ?stay ?giveUp ?first ?tryEnds ?ok ?retry
  case stay | ok => exact fun _ _ => hi
  case giveUp => exact fun s₀ _ _ ht => result_inv P s₀ (Nat.le_of_eq ht)
  case first =>                                                -- the first try, of at least one
    exact fun s₀ _ _ hr ht => doResolve_inv P s₀ (fun h => Bool.noConfusion (hr.symm.trans h)) (ht ▸ hp)
  case tryEnds => exact fun _ _ _ _ _ _ => result_inv P _ htries
  case retry => exact fun hr => doResolve_inv P _ Bool.noConfusion (hretry hr)   -- a server is left

/-- **C20.3c (never stuck, bounded retries)** the invariant holds in every reachable state -/
theorem c20_inv_run (P : DnsParams) (hp : 1 ≤ P.servers) (es : List DnsEv) (s : Dns) (hi : Inv P s) :
    Inv P (Dns.run P s es).1 :=
  run_invariant P (c20_inv_step P hp) es s hi

/-- **C20.3d (completion)** once all servers were tried, the next failure of the attempt (timeout
    timer, disconnect, refused send or bad reply) completes the request with the failure callback;
    and a success is reported at the next disconnect or timeout. -/
theorem c20_completes_after_last_try (P : DnsParams) (s : Dns) (hp : s.pending = true)
    (ht : s.tries = P.servers) (ha : s.timeoutArmed = true) :
    callbacks (Dns.step P s .fireTimeout).2 = 1 ∧ (Dns.step P s .fireTimeout).1.pending = false := by
  have := result_last P { s with timeoutArmed := false, connOpen := false, closing := s.connOpen || s.closing }
    (.inr (Nat.le_of_eq ht.symm)) hp
  unfold Dns.step
  simp only [ha]
  rw [this.1]
  exact ⟨rfl, this.2.1⟩

/-- while no request is pending the retry timer is off and the attempt state is final (a success, all servers
    used) or nothing is going on at all - so whatever comes late stays in the completion branch -/
def Quiet (P : DnsParams) (s : Dns) : Prop :=
  s.pending = false → s.retryArmed = false ∧
    (s.success = true ∨ P.servers ≤ s.tries ∨ (s.connOpen = false ∧ s.closing = false ∧ s.timeoutArmed = false))

theorem Quiet.busy {P : DnsParams} {s : Dns} (hq : Quiet P s)
    (hb : s.connOpen = true ∨ s.closing = true ∨ s.timeoutArmed = true) (hp : s.pending = false) :
    s.retryArmed = false ∧ (s.success = true ∨ P.servers ≤ s.tries) := by
  obtain ⟨h1, h2 | h2 | ⟨a, b, c⟩⟩ := hq hp
  · exact ⟨h1, .inl h2⟩
  · exact ⟨h1, .inr h2⟩
  · rw [a, b, c] at hb; simp at hb

theorem result_quiet (P : DnsParams) (s : Dns)
    (h : s.pending = false → s.retryArmed = false ∧ (s.success = true ∨ P.servers ≤ s.tries)) :
    Quiet P (Dns.result P s).1 := by
  fun_cases Dns.result P s
  · next hb =>                          -- 1: then a request is pending, by `h`
    intro hp
    rcases (h hp).2 with h1 | h1
    · rw [hb.1] at h1; cases h1
    · omega
  all_goals                             -- 2, 3: retry off, and ¬hb says the state is final
    next hb _ _ =>
    refine fun _ => ⟨rfl, ?_⟩
    cases hs : s.success
    · exact .inr (.inl (Nat.le_of_not_lt fun hlt => hb ⟨hs, hlt⟩))
    · exact .inl rfl

theorem doResolve_pending (P : DnsParams) (s : Dns) : (Dns.doResolve P s).1.pending = s.pending := by
  fun_cases Dns.doResolve P s <;> rfl

theorem Quiet.of_pending {P : DnsParams} {s : Dns} (hp : s.pending = true) : Quiet P s :=
  fun h => Bool.noConfusion (hp.symm.trans h)

theorem Quiet.retry {P : DnsParams} {s : Dns} (hq : Quiet P s) (hr : s.retryArmed = true) : s.pending = true := by
  cases hp : s.pending
  · exact Bool.noConfusion ((hq hp).1.symm.trans hr)
  · rfl

/-- **C20.3e (the request ends at its completion)** `Quiet` holds in every reachable state -/
theorem c20_quiet_step (P : DnsParams) (s : Dns) (e : DnsEv) (hq : Quiet P s) : Quiet P (Dns.step P s e).1 := by
  refine step_regimes P s e ?stay ?giveUp ?first ?tryEnds ?ok ?retry
  case stay => exact fun _ _ => hq
  case giveUp => exact fun s₀ _ hp _ => result_quiet P s₀ fun h => Bool.noConfusion (hp.symm.trans h)
  case first => exact fun s₀ _ hp _ _ => .of_pending ((doResolve_pending P s₀).trans hp)
  case tryEnds => exact fun _ _ _ _ hbusy _ => result_quiet P _ (hq.busy hbusy)
  case ok => exact fun _ hc hp => ⟨(hq.busy (.inl hc) hp).1, .inl rfl⟩          -- a success is final
  case retry => exact fun hr => .of_pending ((doResolve_pending P _).trans (hq.retry hr))

theorem c20_quiet_run (P : DnsParams) (es : List DnsEv) (s : Dns) (hq : Quiet P s) :
    Quiet P (Dns.run P s es).1 :=
  run_invariant P (c20_quiet_step P) es s hq

theorem quiet_init (P : DnsParams) : Quiet P {} := fun _ => ⟨rfl, Or.inr (Or.inr ⟨rfl, rfl, rfl⟩)⟩

theorem result_no_connect (P : DnsParams) (s : Dns) (k : Nat) : DnsObs.connect k ∉ (Dns.result P s).2 := by
  fun_cases Dns.result P s <;> simp

/-- **C20.3f** in every reachable state, a step that opens a connection to a DNS server (the only way a request is
    sent) belongs to a request that is still pending: after the completion callback the resolver never
    connects again, whatever arrives late (disconnect callbacks, replies, timers). -/
theorem c20_connect_only_when_pending (P : DnsParams) (es : List DnsEv) (e : DnsEv) (k : Nat)
    (h : DnsObs.connect k ∈ (Dns.step P (Dns.run P {} es).1 e).2) :
    (Dns.step P (Dns.run P {} es).1 e).1.pending = true := by
  have hq := c20_quiet_run P es {} (quiet_init P)
  generalize (Dns.run P {} es).1 = s at h hq ⊢
  revert h
  -- only `doResolve` connects: for a new request, or when the retry timer fires
  refine step_regimes P s e ?stay ?giveUp ?first ?tryEnds ?ok ?retry
  case stay => exact fun o ho h => absurd h (ho.2 k)
  case giveUp => exact fun s₀ _ _ _ h => absurd h (result_no_connect P s₀ k)
  case first => exact fun s₀ _ hp _ _ _ => (doResolve_pending P s₀).trans hp
  case tryEnds =>
    exact fun _ _ _ pre _ hpre h => ((List.mem_append.mp h).elim (hpre.2 k) (result_no_connect P _ k)).elim
  case ok => exact fun _ _ h => absurd h (by simp)
  case retry => exact fun hr _ => (doResolve_pending P _).trans (hq.retry hr)

/-- **C20.3g (a refused connection request does not strand the request)** whether the SDK accepts the connection request or
    refuses it at once (no callback will ever come for it), the try is counted and the per-try timeout is armed: the request
    goes on to the next server or to its completion callback (C20.3d) -/
theorem c20_refused_connect_keeps_timeout (P : DnsParams) (s : Dns) :
    (Dns.doResolve P s).1.timeoutArmed = true ∧ (Dns.doResolve P s).1.tries = s.tries + 1 ∧
    (Dns.doResolve P s).1.pending = s.pending := by
  unfold Dns.doResolve; split <;> simp

theorem c20_in_bounds_repo (R : Nat) (hR : 14 ≤ R) (p : Bytes) :
    ∀ i ∈ (dnsRecv Gen.dnsParams R p).2, i < p.length := c20_in_bounds Gen.dnsParams R hR p

/-- a well-formed A reply for "supla.org" (request length 29) is accepted with its address -/
example : (dnsRecv Gen.dnsParams 29
    ([0,43, 0,1, 0x81,0x80, 0,1, 0,1, 0,0, 0,0, 5,115,117,112,108,97, 3,111,114,103, 0, 0,1, 0,1,
      0xc0,0x0c, 0,1, 0,1, 0,0,0,60, 0,4, 1,2,3,4])).1 = .ok [1, 2, 3, 4] := by decide

/-- the same reply with RDLENGTH 16 is not accepted -/
example : (dnsRecv Gen.dnsParams 29
    ([0,43, 0,1, 0x81,0x80, 0,1, 0,1, 0,0, 0,0, 5,115,117,112,108,97, 3,111,114,103, 0, 0,1, 0,1,
      0xc0,0x0c, 0,1, 0,1, 0,0,0,60, 0,16, 1,2,3,4])).1 = .ignore := by decide

/-- the history of the defect repaired by 3c3eef2 in /repo: a bad length prefix arms the retry timer, a good reply on the
    same connection and the disconnect callback complete the request; the retry timer is off after that -/
example :
    let good : Bytes := [0,43, 0,1, 0x81,0x80, 0,1, 0,1, 0,0, 0,0, 5,115,117,112,108,97, 3,111,114,103, 0, 0,1, 0,1,
      0xc0,0x0c, 0,1, 0,1, 0,0,0,60, 0,4, 1,2,3,4]
    let r := Dns.run Gen.dnsParams {} [.resolve (some [115,117,112,108,97,46,111,114,103]) true, .reply (0 :: 44 :: good.drop 2),
      .connected true, .reply good, .disconnected, .fireRetry]
    r.2 = [.disconnect, .connect 0, .sent true 29, .disconnect, .callback (some [1, 2, 3, 4]), .notArmed] ∧
      r.1.retryArmed = false := by decide

end SuplaVerif.C20
