/-
  Props/C09 — the shutter position estimate follows the motor run time however the run is split into
  accounting callbacks; position and tilt stay in range and move only in the direction of travel; the
  reported value is -1 or 0..100.
-/
import SuplaVerif.Lemmas.RsPos
namespace SuplaVerif.C09

/-- the position stays inside 0..100 % and moves only in the direction of travel -/
theorem c09_pos_range_mono (c : MvCfg) (s : Mv) (h : 100 ≤ s.pos ∧ s.pos ≤ 10100) :
    100 ≤ (movePos c s).pos ∧ (movePos c s).pos ≤ 10100 ∧
    (c.up = true → (movePos c s).pos ≤ s.pos) ∧ (c.up = false → s.pos ≤ (movePos c s).pos) := by
  unfold movePos
  split
  · exact ⟨h.1, h.2, fun _ => Nat.le_refl _, fun _ => Nat.le_refl _⟩
  · rw [(posStep_axis c s).1]
    refine axisStep_range_mono c.up s.pos _ c.fullPos s.time h ?_
    unfold remPosTime
    split
    · exact Or.inl rfl
    · exact Or.inr rfl

theorem run_pos_range (c : MvCfg) : ∀ (dts : List Nat) (s : Mv), 100 ≤ s.pos ∧ s.pos ≤ 10100 →
    100 ≤ (mvRun c s dts).pos ∧ (mvRun c s dts).pos ≤ 10100 := by
  intro dts
  induction dts with
  | nil => intro s h; exact h
  | cons dt dts ih =>
    intro s h
    obtain ⟨lo, hi, _⟩ := c09_pos_range_mono c { s with time := s.time + dt } h
    exact ih (mvTick c s dt) ⟨lo, hi⟩

theorem tiltIn_range (c : MvCfg) (s : Mv) (hs : c.tiltSupported = true) : 100 ≤ tiltIn c s ∧ tiltIn c s ≤ 10100 := by
  unfold tiltIn
  by_cases h3 : c.ttype = 3 ∧ s.pos < 10100
  · rw [if_pos h3]; omega
  · rw [if_neg h3]
    by_cases h : c.tiltSupported = true ∧ (s.tilt < 100 ∨ s.tilt > 10100)
    · rw [if_pos h]; omega
    · rw [if_neg h]
      have : ¬ (s.tilt < 100 ∨ s.tilt > 10100) := fun hh => h ⟨hs, hh⟩
      omega

/-- for a facade blind (any of the three tilt modes) the tilt stays inside 0..100 % and moves only in the
    direction of travel (relative to the tilt the step starts from) -/
theorem c09_tilt_range_mono (c : MvCfg) (s : Mv) (hs : c.tiltSupported = true) (hp : 100 ≤ s.pos ∧ s.pos ≤ 10100)
    (hf : c.fullMs ≠ 0) :
    100 ≤ (movePos c s).tilt ∧ (movePos c s).tilt ≤ 10100 ∧
    (c.up = true → (movePos c s).tilt ≤ tiltIn c s) ∧ (c.up = false → tiltIn c s ≤ (movePos c s).tilt) := by
  unfold movePos
  rw [if_neg (by omega)]
  -- `tiltStep` is the tilt's axis step by rfl
  refine axisStep_range_mono c.up (tiltIn c s) (remTiltTime c s) c.fullTilt s.time (tiltIn_range c s hs) ?_
  unfold remTiltTime
  rw [if_pos hs]
  split
  · exact Or.inl rfl
  · exact Or.inr rfl

/-- the value sent to the server is -1 or 0..100 -/
theorem c09_reported_range (p : Nat) : reportedPos p = -1 ∨ (0 ≤ reportedPos p ∧ reportedPos p ≤ 100) := by
  unfold reportedPos
  by_cases h : 100 ≤ p ∧ p ≤ 10100
  · rw [if_pos h]; right; constructor
    · exact Int.natCast_nonneg _
    · have : (p - 100 + 50) / 100 ≤ 100 := by omega
      exact_mod_cast this
  · rw [if_neg h]; left; rfl

/-- an unknown position stays unknown (no bookkeeping without calibration) -/
theorem c09_unknown_stays (c : MvCfg) (s : Mv) (h : s.pos < 100 ∨ s.pos > 10100) : movePos c s = s := by
  unfold movePos
  rw [if_pos (by omega)]

/-- conserved quantity while closing: position in time units plus the carried time (`psiD false`) -/
def psiDown (F : Nat) (s : Mv) : Nat := s.pos * F + 10000 * s.time
def psiUp (F : Nat) (s : Mv) : Nat := (10100 - s.pos) * F + 10000 * s.time

/-- one callback of a closing roller shutter: Ψ grows by 10⁴·dt + e with 0 ≤ e < 10⁴; below the end
    stop the carried time stays under one unit's worth (+1 µs) -/
theorem tick_down (fullMs : Nat) (hF : 10 ≤ fullMs) (s : Mv) (dt : Nat) (hp : 100 ≤ s.pos ∧ s.pos ≤ 10100) :
    let s' := mvTick (rsCfg fullMs false) s dt
    psiDown (fullMs * 1000) s + 10000 * dt ≤ psiDown (fullMs * 1000) s' ∧
    psiDown (fullMs * 1000) s' < psiDown (fullMs * 1000) s + 10000 * dt + 10000 ∧
    (s'.pos < 10100 → 10000 * s'.time < fullMs * 1000 + 10000) := by
  obtain ⟨_, _, _, hlow, hupp, hcarry⟩ := tick_psi fullMs hF false s dt hp
  exact ⟨hlow, hupp, fun h => hcarry (Nat.sub_pos_of_lt h)⟩

/-- conservation over any split of the run time into callbacks -/
theorem run_down (fullMs : Nat) (hF : 10 ≤ fullMs) : ∀ (dts : List Nat) (s : Mv), 100 ≤ s.pos ∧ s.pos ≤ 10100 →
    psiDown (fullMs * 1000) s + 10000 * sum dts ≤ psiDown (fullMs * 1000) (mvRun (rsCfg fullMs false) s dts) ∧
    psiDown (fullMs * 1000) (mvRun (rsCfg fullMs false) s dts) ≤ psiDown (fullMs * 1000) s + 10000 * sum dts + 10000 * dts.length := by
  intro dts s hp
  obtain ⟨_, _, _, hlow, hupp, _⟩ := run_psi fullMs hF false dts s hp
  exact ⟨hlow, hupp⟩

/-- the carried time after a run is below one unit's worth while the end stop is not reached -/
theorem run_carry_down (fullMs : Nat) (hF : 10 ≤ fullMs) : ∀ (dts : List Nat) (s : Mv), 100 ≤ s.pos ∧ s.pos ≤ 10100 →
    dts ≠ [] → (mvRun (rsCfg fullMs false) s dts).pos < 10100 →
    10000 * (mvRun (rsCfg fullMs false) s dts).time < fullMs * 1000 + 10000 := by
  intro dts s hp hne h
  obtain ⟨_, _, _, _, _, hcarry⟩ := run_psi fullMs hF false dts s hp
  exact hcarry (List.length_pos_iff.mpr hne) (Nat.sub_pos_of_lt h)

/-- C09 (closing roller shutter): from a known position p₀ with nothing carried, after run time T = Σ dts split in
    any way into n callbacks, the position p is in range, not behind p₀, and never ahead of the run time by more
    than n·10⁴/F units of 0.01 %:  (p − p₀)·F ≤ 10⁴·T + 10⁴·n  (F = full closing time in µs) -/
theorem c09_accuracy_down_upper (fullMs : Nat) (hF : 10 ≤ fullMs) (p0 : Nat) (hp : 100 ≤ p0 ∧ p0 ≤ 10100)
    (dts : List Nat) :
    p0 ≤ (mvRun (rsCfg fullMs false) { pos := p0, tilt := 0, time := 0 } dts).pos ∧
    (mvRun (rsCfg fullMs false) { pos := p0, tilt := 0, time := 0 } dts).pos ≤ 10100 ∧
    ((mvRun (rsCfg fullMs false) { pos := p0, tilt := 0, time := 0 } dts).pos - p0) * (fullMs * 1000)
      ≤ 10000 * sum dts + 10000 * dts.length := by
  obtain ⟨_, hi, hgone, hahead, _⟩ := accuracy fullMs hF false p0 hp dts
  exact ⟨hgone, hi, hahead⟩

/-- C09 (closing, lower bound): while the end stop is not reached the estimate is never behind the run time by
    more than one unit plus 10⁴/F:  10⁴·T < (p − p₀)·F + F + 10⁴ -/
theorem c09_accuracy_down_lower (fullMs : Nat) (hF : 10 ≤ fullMs) (p0 : Nat) (hp : 100 ≤ p0 ∧ p0 ≤ 10100)
    (dts : List Nat) (hne : dts ≠ [])
    (hlt : (mvRun (rsCfg fullMs false) { pos := p0, tilt := 0, time := 0 } dts).pos < 10100) :
    10000 * sum dts <
      ((mvRun (rsCfg fullMs false) { pos := p0, tilt := 0, time := 0 } dts).pos - p0) * (fullMs * 1000) + fullMs * 1000 + 10000 := by
  obtain ⟨_, _, _, _, hbehind⟩ := accuracy fullMs hF false p0 hp dts
  exact hbehind hne (Nat.sub_pos_of_lt hlt)

theorem tick_up (fullMs : Nat) (hF : 10 ≤ fullMs) (s : Mv) (dt : Nat) (hp : 100 ≤ s.pos ∧ s.pos ≤ 10100) :
    let s' := mvTick (rsCfg fullMs true) s dt
    psiUp (fullMs * 1000) s + 10000 * dt ≤ psiUp (fullMs * 1000) s' ∧
    psiUp (fullMs * 1000) s' < psiUp (fullMs * 1000) s + 10000 * dt + 10000 ∧
    (100 < s'.pos → 10000 * s'.time < fullMs * 1000 + 10000) := by
  obtain ⟨_, _, _, hlow, hupp, hcarry⟩ := tick_psi fullMs hF true s dt hp
  exact ⟨hlow, hupp, fun h => hcarry (Nat.sub_pos_of_lt h)⟩

theorem run_up (fullMs : Nat) (hF : 10 ≤ fullMs) : ∀ (dts : List Nat) (s : Mv), 100 ≤ s.pos ∧ s.pos ≤ 10100 →
    psiUp (fullMs * 1000) s + 10000 * sum dts ≤ psiUp (fullMs * 1000) (mvRun (rsCfg fullMs true) s dts) ∧
    psiUp (fullMs * 1000) (mvRun (rsCfg fullMs true) s dts) ≤ psiUp (fullMs * 1000) s + 10000 * sum dts + 10000 * dts.length := by
  intro dts s hp
  obtain ⟨_, _, _, hlow, hupp, _⟩ := run_psi fullMs hF true dts s hp
  exact ⟨hlow, hupp⟩

theorem run_carry_up (fullMs : Nat) (hF : 10 ≤ fullMs) : ∀ (dts : List Nat) (s : Mv), 100 ≤ s.pos ∧ s.pos ≤ 10100 →
    dts ≠ [] → 100 < (mvRun (rsCfg fullMs true) s dts).pos →
    10000 * (mvRun (rsCfg fullMs true) s dts).time < fullMs * 1000 + 10000 := by
  intro dts s hp hne h
  obtain ⟨_, _, _, _, _, hcarry⟩ := run_psi fullMs hF true dts s hp
  exact hcarry (List.length_pos_iff.mpr hne) (Nat.sub_pos_of_lt h)

/-- C09 (opening roller shutter): (p₀ − p)·F ≤ 10⁴·T + 10⁴·n -/
theorem c09_accuracy_up_upper (fullMs : Nat) (hF : 10 ≤ fullMs) (p0 : Nat) (hp : 100 ≤ p0 ∧ p0 ≤ 10100)
    (dts : List Nat) :
    100 ≤ (mvRun (rsCfg fullMs true) { pos := p0, tilt := 0, time := 0 } dts).pos ∧
    (mvRun (rsCfg fullMs true) { pos := p0, tilt := 0, time := 0 } dts).pos ≤ p0 ∧
    (p0 - (mvRun (rsCfg fullMs true) { pos := p0, tilt := 0, time := 0 } dts).pos) * (fullMs * 1000)
      ≤ 10000 * sum dts + 10000 * dts.length := by
  obtain ⟨lo, hi, hgone, hahead, _⟩ := accuracy fullMs hF true p0 hp dts
  obtain ⟨hle, e⟩ := gone_up_sub hp.2 hi hgone
  exact ⟨lo, hle, e ▸ hahead⟩

/-- C09 (opening, lower bound): 10⁴·T < (p₀ − p)·F + F + 10⁴ while the upper end stop is not reached -/
theorem c09_accuracy_up_lower (fullMs : Nat) (hF : 10 ≤ fullMs) (p0 : Nat) (hp : 100 ≤ p0 ∧ p0 ≤ 10100)
    (dts : List Nat) (hne : dts ≠ [])
    (hlt : 100 < (mvRun (rsCfg fullMs true) { pos := p0, tilt := 0, time := 0 } dts).pos) :
    10000 * sum dts <
      (p0 - (mvRun (rsCfg fullMs true) { pos := p0, tilt := 0, time := 0 } dts).pos) * (fullMs * 1000) + fullMs * 1000 + 10000 := by
  obtain ⟨_, hi, hgone, _, hbehind⟩ := accuracy fullMs hF true p0 hp dts
  exact (gone_up_sub hp.2 hi hgone).2 ▸ hbehind hne (Nat.sub_pos_of_lt hlt)

/-- non-vacuity: 12.345 s closing time, 7 irregular callbacks from fully open -/
example : (mvRun (rsCfg 12345 false) { pos := 100, tilt := 0, time := 0 } [10000, 10000, 7000, 250000, 1000, 12000000, 5000]).pos = 10049 := by
  decide

end SuplaVerif.C09
