/-
  Props/C08 — roller-shutter motor outputs are interlocked and restarts/reversals are spaced.

  About `Rs.setRelay` / `Rs.fireTrigger` / `Rs.swap`, the model of the only code that energises shutter outputs, for every
  state, argument, boot value and instant, hence every history of calls. That every energising in the firmware goes through
  this code is checked on the implementation (replay of the observed calls; tools/props/c08.py).
-/
import SuplaVerif.Model.RsRelay
import SuplaVerif.Lemmas.Wrap
import SuplaVerif.Gen.Consts

namespace SuplaVerif.C08

/-- the two outputs of a shutter are not both energised -/
def Interlock (s : Rs) : Prop := ¬(s.up = true ∧ s.down = true)

theorem relayHi_levels (P : RsParams) (s : Rs) (isUp : Bool) (pin : Nat) (hi : Bool) :
    (s.relayHi P isUp pin hi).1.up = (if isUp then hi else s.up) ∧
    (s.relayHi P isUp pin hi).1.down = (if isUp then s.down else hi) ∧
    (s.relayHi P isUp pin hi).1.boot = s.boot := by
  fun_cases Rs.relayHi P s isUp pin hi
  case case1 => exact ⟨rfl, rfl, rfl⟩   -- both off afterwards
  case case2 => exact ⟨rfl, rfl, rfl⟩

theorem relayHi_interlock (P : RsParams) (s : Rs) (isUp : Bool) (pin : Nat) (hi : Bool)
    (hoff : hi = true → (if isUp then s.down else s.up) = false) : Interlock (s.relayHi P isUp pin hi).1 := by
  obtain ⟨e1, e2, -⟩ := relayHi_levels P s isUp pin hi
  intro ⟨hu, hd⟩
  rw [e1] at hu
  rw [e2] at hd
  cases isUp
  · exact Bool.false_ne_true ((hoff hd).symm.trans hu)
  · exact Bool.false_ne_true ((hoff hu).symm.trans hd)

theorem forceOpp_levels (P : RsParams) (s : Rs) (v pu pd : Nat) :
    (v = 2 → (s.forceOpp P v pu pd).1.down = false ∧ (s.forceOpp P v pu pd).1.up = s.up) ∧
    (v ≠ 2 → (s.forceOpp P v pu pd).1.up = false ∧ (s.forceOpp P v pu pd).1.down = s.down) := by
  fun_cases Rs.forceOpp P s v pu pd
  case case1 hv _ _ =>   -- UP, down is on
    obtain ⟨hu, hd, -⟩ := relayHi_levels P s false pd false
    exact ⟨fun _ => ⟨hd, hu⟩, absurd hv⟩
  case case2 hv hdown =>   -- UP, down is off
    exact ⟨fun _ => ⟨Bool.eq_false_iff.mpr hdown, rfl⟩, absurd hv⟩
  case case3 hv _ _ =>   -- DOWN, up is on
    obtain ⟨hu, hd, -⟩ := relayHi_levels P s true pu false
    exact ⟨(absurd · hv), fun _ => ⟨hu, hd⟩⟩
  case case4 hv hup =>   -- DOWN, up is off
    exact ⟨(absurd · hv), fun _ => ⟨Bool.eq_false_iff.mpr hup, rfl⟩⟩

/-- one output is off after the first step of a direction command, whatever the state was -/
theorem forceOpp_off (P : RsParams) (s : Rs) (v pu pd : Nat) :
    Interlock (s.forceOpp P v pu pd).1 ∧ (v = 2 → (s.forceOpp P v pu pd).1.down = false) ∧
    (v ≠ 2 → (s.forceOpp P v pu pd).1.up = false) := by
  obtain ⟨hUp, hDown⟩ := forceOpp_levels P s v pu pd
  refine ⟨fun ⟨hu, hd⟩ => ?_, fun hv => (hUp hv).1, fun hv => (hDown hv).1⟩
  by_cases hv : v = 2
  · exact Bool.false_ne_true ((hUp hv).1.symm.trans hd)
  · exact Bool.false_ne_true ((hDown hv).1.symm.trans hu)

theorem act_interlock (P : RsParams) (s : Rs) (v : Nat) (bu bd : Bool) (pu pd : Nat)
    (h : Interlock s) (h2 : v = 2 → s.down = false) (h1 : v = 1 → s.up = false) :
    Interlock (s.act P v bu bd pu pd).1 := by
  fun_cases Rs.act P s v bu bd pu pd
  case case1 | case3 => exact h   -- UP / DOWN blocked
  case case2 hv _ => exact relayHi_interlock P s true pu true fun _ => h2 hv   -- UP
  case case4 _ hv _ => exact relayHi_interlock P s false pd true fun _ => h1 hv   -- DOWN
  case case5 => exact relayHi_interlock P _ false pd false nofun   -- stop

/-- **C08.1 (interlock, one call)** `set_relay` never leaves both outputs energised, whatever the
    value, flags, stamps, time or counter. -/
theorem c08_interlock_setRelay (P : RsParams) (s : Rs) (v : Nat) (sd bu bd : Bool) (pu pd : Nat)
    (h : Interlock s) : Interlock (s.setRelay P v sd bu bd pu pd).1 := by
  obtain ⟨hil, hdown, hup⟩ := forceOpp_off P { s with trig := none } v pu pd
  fun_cases Rs.setRelay P s v sd bu bd pu pd
  case case1 => exact h   -- stop, delayed
  case case2 hv _ =>   -- stop at once: `v = 0`, the side conditions are vacuous
    exact act_interlock P _ v bu bd pu pd h (fun h2 => absurd (hv ▸ h2) (by decide)) (fun h1 => absurd (hv ▸ h1) (by decide))
  case case3 => exact hil   -- direction, delayed
  case case4 hv _ =>   -- direction at once
    exact act_interlock P _ v bu bd pu pd hil hdown fun h1 => hup (by omega)

theorem c08_interlock_fire (P : RsParams) (s : Rs) (bu bd : Bool) (pu pd : Nat) (h : Interlock s) :
    Interlock (s.fireTrigger P bu bd pu pd).1 := by
  fun_cases Rs.fireTrigger P s bu bd pu pd
  case case1 => exact h   -- not armed
  case case2 => exact c08_interlock_setRelay P s _ false bu bd pu pd h

/-- swapping the motor direction (channel config) keeps the interlock -/
theorem c08_interlock_swap (s : Rs) (h : Interlock s) : Interlock s.swap :=
  fun ⟨a, b⟩ => h ⟨b, a⟩

/-- operations on one shutter's outputs, as the firmware performs them -/
inductive RsOp
  | set (v : Nat) (sd bu bd : Bool) (pu pd : Nat) (at_ : Nat)   -- set_relay at true time `at_`
  | fire (bu bd : Bool) (pu pd : Nat) (at_ : Nat)               -- delayed trigger fires
  | swap
  deriving Repr

def applyOp (P : RsParams) (s : Rs) : RsOp → Rs × List RsObs
  | .set v sd bu bd pu pd t => ({ s with now := max s.now t }).setRelay P v sd bu bd pu pd
  | .fire bu bd pu pd t => ({ s with now := max s.now t }).fireTrigger P bu bd pu pd
  | .swap => (s.swap, [])

def runOps (P : RsParams) (s : Rs) : List RsOp → Rs × List RsObs
  | [] => (s, [])
  | o :: os =>
    let r1 := applyOp P s o
    let r2 := runOps P r1.1 os
    (r2.1, r1.2 ++ r2.2)

/-- **C08.1b (interlock, every history)** after any sequence of commands, trigger firings and motor
    swaps at any instants, with any counter boot value, the two outputs are never both energised. -/
theorem c08_interlock_run (P : RsParams) (ops : List RsOp) (s : Rs) (h : Interlock s) :
    Interlock (runOps P s ops).1 := by
  induction ops generalizing s with
  | nil => exact h
  | cons o os ih =>
    apply ih
    cases o with
    | set v sd bu bd pu pd t => exact c08_interlock_setRelay P _ v sd bu bd pu pd h
    | fire bu bd pu pd t => exact c08_interlock_fire P _ bu bd pu pd h
    | swap => exact c08_interlock_swap s h

theorem stamp_cnt (boot τ : Nat) :
    stamp (cnt boot τ) = cnt boot τ ∨ (stamp (cnt boot τ) = cnt boot (τ + 1) ∧ cnt boot τ = 0) := by
  unfold stamp
  by_cases h0 : cnt boot τ = 0
  · rw [if_pos h0, cnt_add, h0]; exact Or.inr ⟨rfl, rfl⟩
  · rw [if_neg h0]; exact Or.inl rfl

/-- elapsed time as the firmware computes it from a stamp taken at true time `τ`: exact modulo 2^32, or one
    microsecond short when the counter read 0 at `τ` (0 is reserved for "not set", the stamp is 1 then) -/
theorem elapsed_from_stamp (boot τ now : Nat) (hlt : τ < now) :
    subw (cnt boot now) (stamp (cnt boot τ)) = (now - τ) % W32 ∨
    subw (cnt boot now) (stamp (cnt boot τ)) = (now - τ - 1) % W32 := by
  rcases stamp_cnt boot τ with h | ⟨h, h0⟩
  · left; rw [h, ← subw_cnt boot τ (now - τ), Nat.add_sub_cancel' (Nat.le_of_lt hlt)]
  · right; rw [h, ← subw_cnt boot (τ + 1) (now - τ - 1), Nat.sub_sub, Nat.add_sub_cancel' hlt]

/-- **C08.2a (the delay is exact across a wrap)** if both outputs went off at true time `τ` and
    were stamped then, the start delay computed at a later true time `now` uses the true elapsed time
    modulo 2^32 (at most one microsecond less) — for every boot value, also when the counter read 0 at `τ`. -/
theorem c08_delay_uses_true_elapsed (P : RsParams) (hs0 : P.startDelay ≠ 0) (s : Rs) (τ : Nat)
    (hstart : s.startT = 0) (hstop : s.stopT = stamp (cnt s.boot τ)) (hlt : τ < s.now) :
    ∃ e, (e = (s.now - τ) % W32 ∨ e = (s.now - τ - 1) % W32) ∧
      Rs.startDelayOf P s = (if e / 1000 < P.startDelay then P.startDelay - e / 1000 + 1 else 0) := by
  refine ⟨subw (cnt s.boot s.now) (stamp (cnt s.boot τ)), elapsed_from_stamp s.boot τ s.now hlt, ?_⟩
  have hpos : stamp (cnt s.boot τ) > 0 := by unfold stamp; split <;> omega
  unfold Rs.startDelayOf
  rw [hstop]
  by_cases hc : subw (cnt s.boot s.now) (stamp (cnt s.boot τ)) / 1000 < P.startDelay
  · rw [if_pos hc, if_pos ⟨hs0, hstart, hpos, hc⟩]
  · rw [if_neg hc, if_neg fun ⟨_, _, _, hlt⟩ => hc hlt]

/-- **C08.2b (spacing, the decisive inequality)** whenever the computed delay does not exceed the scheduling
    threshold — the only case in which `set_relay` energises an output at once — at least `startDelay - thresh - 1` ms of
    true time have passed since the outputs went off; with no upper bound on the elapsed time, wherever the counter wrapped
    and whatever it read at the stop. -/
theorem c08_spacing (P : RsParams) (hP : P.thresh < P.startDelay) (hs0 : P.startDelay ≠ 0) (s : Rs) (τ : Nat)
    (hstart : s.startT = 0) (hstop : s.stopT = stamp (cnt s.boot τ)) (hlt : τ < s.now)
    (hd : ¬ Rs.startDelayOf P s > P.thresh) :
    τ + (P.startDelay - P.thresh - 1) * 1000 ≤ s.now := by
  obtain ⟨e, he, hdel⟩ := c08_delay_uses_true_elapsed P hs0 s τ hstart hstop hlt
  rw [hdel] at hd
  -- a delay of at most `thresh` means `startDelay - thresh - 1` whole milliseconds were counted
  have hk : P.startDelay - P.thresh - 1 ≤ e / 1000 := by split at hd <;> omega
  have hle : e ≤ s.now - τ := by
    rcases he with rfl | rfl
    · exact Nat.mod_le _ _
    · exact Nat.le_trans (Nat.mod_le _ _) (Nat.sub_le _ _)
  exact Nat.add_le_of_le_sub' (Nat.le_of_lt hlt) (Nat.le_trans (Nat.mul_le_of_le_div _ _ _ hk) hle)

/-- **C08.2c (a command during the delay schedules, it does not energise)** from the all-off
    state, if the delay exceeds the threshold, `set_relay` for a direction produces no GPIO change
    at all and arms the delayed trigger for exactly the remaining time. -/
theorem c08_delayed_not_immediate (P : RsParams) (s : Rs) (v : Nat) (sd bu bd : Bool) (pu pd : Nat)
    (hv : v ≠ 0) (hup : s.up = false) (hdown : s.down = false)
    (hd : Rs.startDelayOf P { s with trig := none } > P.thresh) :
    (s.setRelay P v sd bu bd pu pd).2 = [] ∧
    (s.setRelay P v sd bu bd pu pd).1.trig =
      some (v, s.now + Rs.startDelayOf P { s with trig := none } * 1000) := by
  have hf : Rs.forceOpp P { s with trig := none } v pu pd = ({ s with trig := none }, []) := by
    unfold Rs.forceOpp
    split <;> simp [hup, hdown]
  unfold Rs.setRelay
  rw [if_neg hv]
  simp only [hf]
  rw [if_pos hd]
  simp

/-- a reversal first switches the running output off and stamps the stop: afterwards both are
    off and `start_time` is cleared (so that the start delay applies to the new direction) -/
theorem c08_reversal_forces_off (P : RsParams) (s : Rs) (pu pd : Nat) (hup : s.up = true)
    (hil : Interlock s) (hrun : s.stopT = 0) :
    (s.forceOpp P 1 pu pd).1.up = false ∧ (s.forceOpp P 1 pu pd).1.down = false ∧
    (s.forceOpp P 1 pu pd).1.startT = 0 ∧ (s.forceOpp P 1 pu pd).1.stopT = stamp (cnt s.boot s.now) ∧
    (s.forceOpp P 1 pu pd).1.now = s.now + P.preUs + P.dblUs + P.postUs + P.oppUs := by
  have hdown : s.down = false := Bool.eq_false_iff.mpr fun hd => hil ⟨hup, hd⟩
  obtain ⟨hu, hd, -⟩ := relayHi_levels P s true pu false
  rw [Rs.forceOpp, if_neg (by decide), if_pos hup]
  refine ⟨hu, hd.trans hdown, ?_⟩
  -- both off: the branch of `relay_hi` that clears `start_time` and stamps an unset `stop_time`
  rw [Rs.relayHi]
  simp [hdown, hrun]

/-- for the constants of the source tree: an immediate start happens no earlier than 899 ms after
    the outputs went off -/
theorem c08_spacing_repo (s : Rs) (τ : Nat)
    (hstart : s.startT = 0) (hstop : s.stopT = stamp (cnt s.boot τ)) (hlt : τ < s.now)
    (hd : ¬ Rs.startDelayOf Gen.rsParams s > Gen.rsParams.thresh) : τ + 899000 ≤ s.now :=
  c08_spacing Gen.rsParams (by decide) (by decide) s τ hstart hstop hlt hd

/-- non-vacuity: a stop at true time 2.8 s stamped just before the counter wraps, then a DOWN
    command 0.5 s later (after the wrap): nothing is energised, a delayed start is scheduled for
    the remaining 501 ms. Witness of the defect repaired by /repo commit abbdbd9 (`t >= stop_time` lost the delay). -/
example :
    let s : Rs := { stopT := cnt (4294967296 - 3000000) 2800000, boot := 4294967296 - 3000000, now := 3300000,
                    offSince := some 2800000 }
    (s.setRelay Gen.rsParams 1 false false false 1 2).2 = [] ∧
    (s.setRelay Gen.rsParams 1 false false false 1 2).1.trig = some (1, 3300000 + 501000) := by decide

/-- non-vacuity of the zero reading: the shutter runs up, a DOWN command arrives at the very microsecond the
    counter wraps to 0: the up output goes off (stamp 1, not 0), nothing is energised, the start is scheduled.
    Witness of the defect repaired by /repo commit ac4d248: with it the stamp 0 read as "never stopped" and the down
    output followed 20 ms later. -/
example :
    let s : Rs := { up := true, startT := 7, boot := 4294967296 - 1500000, now := 1500000 }
    (s.setRelay Gen.rsParams 1 false false false 1 2).1.up = false ∧
    (s.setRelay Gen.rsParams 1 false false false 1 2).1.down = false ∧
    (s.setRelay Gen.rsParams 1 false false false 1 2).1.stopT = 1 ∧
    (s.setRelay Gen.rsParams 1 false false false 1 2).1.trig.isSome = true := by decide

end SuplaVerif.C08
