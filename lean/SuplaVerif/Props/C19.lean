/-
  Props/C19 — behaviour is independent of the absolute value of the microsecond counter.

  Part 1 (theorems): the uptime derivation is monotone across wrap-arounds, and the modular difference used by every
  module that keeps raw stamps (`t - t0` in unsigned arithmetic) is the true elapsed time, for every boot value and wrap
  position.
  Part 2 (checked on the implementation, tools/props/c19.py): shutter (C08), set-value (C03), action-trigger (C11) and
  configuration-button (C12) scenarios are replayed with the boot value placing the wrap before/inside/after each timed
  interval and the observable traces compared.
-/
import SuplaVerif.Lemmas.Wrap

namespace SuplaVerif.C19

/-- **C19.1a (modular difference is exact)** for every boot value and every pair of instants less
    than 2^32 µs apart, the unsigned difference of the two counter readings is the true elapsed
    time — wherever the wrap falls. -/
theorem c19_subw_exact (boot t d : Nat) (hd : d < W32) :
    subw (cnt boot (t + d)) (cnt boot t) = d := by
  rw [subw_cnt, Nat.mod_eq_of_lt hd]

/-- **C19.1b (boot independence of differences)** hence any quantity computed from differences
    of stamps is the same for every boot value -/
theorem c19_subw_boot_independent (boot boot' t d : Nat) (hd : d < W32) :
    subw (cnt boot (t + d)) (cnt boot t) = subw (cnt boot' (t + d)) (cnt boot' t) := by
  rw [c19_subw_exact boot t d hd, c19_subw_exact boot' t d hd]

/-- the state uptime.c is in after a poll at true time t -/
def Tracks (boot t : Nat) (u : Uptime) : Prop := u.last = cnt boot t

/-- **C19.2 (uptime is monotone)** polled at true times t ≤ t' less than 2^32 µs apart, the
    microsecond uptime does not decrease; it advances by the elapsed time, minus exactly one
    microsecond when the counter wrapped in between (the multiplier is 2^32-1). -/
theorem c19_uptime_step (boot t d : Nat) (u : Uptime) (hu : Tracks boot t u) (hd : d < W32)
    (hc : u.cycles + 1 < W32) :
    let v := u.cycles * 4294967295 + u.last
    let r := u.poll (cnt boot (t + d))
    Tracks boot (t + d) r.1 ∧ (r.2 = v + d ∨ (r.2 + 1 = v + d ∧ 1 ≤ d)) := by
  have hW : W32 = 4294967296 := rfl   -- for `omega`: the multiplier below is W32 - 1
  simp only [Uptime.poll]
  refine ⟨rfl, ?_⟩
  rw [hu]
  rcases cnt_step boot t d hd with ⟨h, e⟩ | ⟨h, e⟩
  · rw [if_neg (Nat.not_lt.mpr h)]; left; omega
  · rw [if_pos h, Nat.mod_eq_of_lt hc]; right; have := cnt_lt boot t; omega

theorem c19_uptime_monotone (boot t d : Nat) (u : Uptime) (hu : Tracks boot t u) (hd : d < W32)
    (hc : u.cycles + 1 < W32) :
    u.cycles * 4294967295 + u.last ≤ (u.poll (cnt boot (t + d))).2 := by
  have := (c19_uptime_step boot t d u hu hd hc).2
  rcases this with h | h <;> omega

/-- milliseconds and seconds (before the uint32 truncation of `uptime_sec`) are monotone too -/
theorem c19_uptime_msec_monotone (boot t d : Nat) (u : Uptime) (hu : Tracks boot t u) (hd : d < W32)
    (hc : u.cycles + 1 < W32) :
    (u.cycles * 4294967295 + u.last) / 1000 ≤ (u.poll (cnt boot (t + d))).2 / 1000 ∧
    (u.cycles * 4294967295 + u.last) / 1000 / 1000 ≤ (u.poll (cnt boot (t + d))).2 / 1000 / 1000 := by
  have h := c19_uptime_monotone boot t d u hu hd hc
  exact ⟨Nat.div_le_div_right h, Nat.div_le_div_right (Nat.div_le_div_right h)⟩

/-- the initial state (memset 0) tracks the counter after the first poll, whatever boot is -/
theorem c19_first_poll (boot t : Nat) : Tracks boot t (({} : Uptime).poll (cnt boot t)).1 := rfl

/-- non-vacuity: a poll 1000 µs before the wrap and one 500 µs after it -/
example : let u := (({} : Uptime).poll 4294966296).1
    (u.poll 500).2 = 4294966296 + 1500 - 1 := by decide

/-- `t - last >= d` in unsigned arithmetic -/
def dueSub (last t d : Nat) : Bool := decide (subw t last ≥ d)
/-- `t >= last + d` with the sum taken in 32 bits -/
def dueCmp (last t d : Nat) : Bool := decide (t ≥ (last + d) % W32)

/-- **C19.3a (the subtracting form means elapsed time)** for every boot value and every pair of instants less than 2^32 us
    apart, `t - last >= d` holds exactly when d microseconds have really passed -/
theorem c19_due_by_subtraction (boot t0 e d : Nat) (he : e < W32) :
    dueSub (cnt boot t0) (cnt boot (t0 + e)) d = decide (e ≥ d) := by
  unfold dueSub; rw [c19_subw_exact boot t0 e he]

/-- **C19.3b (the comparing form does not)** `t >= last + d` depends on where the wrap falls: with a stamp 100 ms before the
    wrap and 10 ms elapsed it already reports that 200 ms have passed, while with the stamp elsewhere it does not -/
theorem c19_due_by_comparison_is_boot_dependent :
    dueCmp (cnt (W32 - 100000) 0) (cnt (W32 - 100000) 10000) 200000 = true ∧
    dueCmp (cnt 777 0) (cnt 777 10000) 200000 = false ∧
    dueSub (cnt (W32 - 100000) 0) (cnt (W32 - 100000) 10000) 200000 = false := by decide

end SuplaVerif.C19
