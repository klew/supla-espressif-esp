/-
  Props/C11 — inputs: glitches are ignored and every real actuation acts exactly once.

  The sampling state machine (Model/Debounce), for every level sequence: with 20 ms sampling and minCycle = 5 a notified
  level was read at six instants spanning 100 ms. Then (C11.A ..) the action-trigger handling behind it (Model/InputAt):
  multi-click bursts, the local relay action, the hold trigger. Plain-mode toggling is exercised on the implementation
  (tools/props/c11.py).
-/
import SuplaVerif.Model.Debounce
import SuplaVerif.Lemmas.InputAt
import SuplaVerif.Gen.Consts

namespace SuplaVerif.C11

/-- the last `n` samples (most recent first in `hist`) all read `v` -/
def LastAll (hist : List Bool) (n : Nat) (v : Bool) : Prop := n ≤ hist.length ∧ ∀ x ∈ hist.take n, x = v

/-- invariant: while sampling (step ≥ 2) the last `step - 1` samples equal `value` -/
def Inv (d : Deb) (hist : List Bool) : Prop := 2 ≤ d.step → LastAll hist (d.step - 1) d.value

theorem LastAll.mono {hist : List Bool} {n k : Nat} {v : Bool} (h : LastAll hist n v) (hk : k ≤ n) : LastAll hist k v :=
  ⟨Nat.le_trans hk h.1, fun x hx => h.2 x ((List.take_sublist_take_left hk).subset hx)⟩

theorem LastAll.cons {hist : List Bool} {n : Nat} {v : Bool} (h : LastAll hist n v) : LastAll (v :: hist) (n + 1) v :=
  ⟨Nat.succ_le_succ h.1, fun x hx => by
    rcases List.mem_cons.mp hx with hx | hx
    · exact hx
    · exact h.2 x hx⟩

theorem sample_inv (m : Nat) (d : Deb) (hist : List Bool) (v : Bool) (h : Inv d hist) :
    Inv (d.sample m v).1 (v :: hist) ∧
    (∀ n, (d.sample m v).2 = some n → n = v ∧ LastAll (v :: hist) (m + 1) v) := by
  -- sampling, level in agreement: the last `step - 1` samples and this one read `v`
  have hrun : d.step ≠ 0 → ¬(d.step = 1 ∨ d.value ≠ v) → d.value = v ∧ LastAll (v :: hist) (d.step - 1 + 1) v := by
    intro h0 h1
    have hv : d.value = v := Decidable.not_not.mp fun hne => h1 (.inr hne)
    exact ⟨hv, hv ▸ (h (by omega)).cons⟩
  fun_cases Deb.sample m d v
  case case1 h0 =>   -- idle
    exact ⟨fun (h2 : 2 ≤ d.step) => by omega, nofun⟩
  case case2 =>   -- after an edge, or level changed: restart at step 2
    exact ⟨fun _ => LastAll.cons (n := 0) ⟨Nat.zero_le _, nofun⟩, nofun⟩
  case case3 h0 h1 h2 =>   -- notify; the new step is 0, `Inv` asks nothing
    exact ⟨fun (h2 : 2 ≤ 0) => absurd h2 (by decide), fun n hn => ⟨(Option.some.inj hn).symm, (hrun h0 h1).2.mono (by omega)⟩⟩
  case case4 h0 h1 h2 =>   -- count on
    obtain ⟨hv, hr⟩ := hrun h0 h1
    exact ⟨fun _ => hv ▸ hr.mono (show d.step + 1 - 1 ≤ d.step - 1 + 1 by omega), nofun⟩

/-- **C11.1 (glitches are ignored)** for every level sequence and every starting state: each
    notification of level `v` at sample index `k` is preceded by `minCycle + 1` consecutive samples
    (the notifying one included) that all read `v`. -/
theorem c11_notify_needs_stable_run (m : Nat) (samples : List Bool) (d : Deb) (hist : List Bool) (k0 : Nat)
    (hinv : Inv d hist) (k : Nat) (v : Bool)
    (hmem : (k, v) ∈ (Deb.run m d k0 samples).2) :
    ∃ j, k = k0 + j ∧ j < samples.length ∧
      LastAll ((samples.take (j + 1)).reverse ++ hist) (m + 1) v := by
  induction samples generalizing d hist k0 with
  | nil => cases hmem
  | cons s ss ih =>
    have hs := sample_inv m d hist s hinv
    rcases List.mem_append.mp hmem with h | h
    · cases hr : (d.sample m s).2 with
      | none => rw [hr] at h; cases h
      | some n =>
        rw [hr] at h
        cases List.mem_singleton.mp h
        exact ⟨0, rfl, Nat.succ_pos _, (hs.2 v hr).1 ▸ (hs.2 v hr).2⟩
    · obtain ⟨j, hj1, hj2, hj3⟩ := ih _ (s :: hist) (k0 + 1) hs.1 h
      refine ⟨j + 1, by omega, Nat.succ_lt_succ hj2, ?_⟩
      rw [List.take_succ_cons, List.reverse_cons, List.append_assoc]
      exact hj3

/-- **C11.2 (a stable level is recognised, once)** from the first sample after an edge
    (step = 1), `minCycle + 1` samples of a constant level `v` produce exactly one notification,
    of `v`, at the last of them, and leave the machine idle (for minCycle ≥ 1). -/
theorem c11_stable_notified_once (m : Nat) (hm : 1 ≤ m) (v : Bool) (val : Bool) :
    Deb.run m { step := 1, value := val } 0 (List.replicate (m + 1) v) =
      ({ step := 0, value := v }, [(m, v)]) := by
  -- each further equal sample increments the step until step = m + 1, which notifies
  have hsample : ∀ s, 2 ≤ s → Deb.sample m ⟨s, v⟩ v = if s > m then (⟨0, v⟩, some v) else (⟨s + 1, v⟩, none) := by
    intro s hs
    rw [Deb.sample, if_neg (show ¬s = 0 by omega), if_neg (show ¬(s = 1 ∨ v ≠ v) from fun h => h.elim (by omega) (· rfl))]
  have hloop : ∀ (n s k : Nat), 2 ≤ s → s + n = m + 1 →
      Deb.run m ⟨s, v⟩ k (List.replicate (n + 1) v) = (⟨0, v⟩, [(k + n, v)]) := by
    intro n
    induction n with
    | zero =>
      intro s k hs hn
      rw [List.replicate_succ, Deb.run, hsample s hs, if_pos (by omega)]
      rfl
    | succ n ih =>
      intro s k hs hn
      rw [List.replicate_succ, Deb.run, hsample s hs, if_neg (by omega), ih (s + 1) (k + 1) (by omega) (by omega),
        Nat.add_right_comm]
      rfl
  obtain ⟨n, rfl⟩ : ∃ n, m = n + 1 := ⟨m - 1, by omega⟩
  rw [List.replicate_succ, Deb.run, Deb.sample, if_neg (show ¬1 = 0 by decide), if_pos (.inl rfl), hloop n 2 1 (Nat.le_refl 2) (by omega),
    Nat.add_comm]
  rfl

/-- an idle machine (no edge) never notifies -/
theorem c11_idle_silent (m : Nat) (samples : List Bool) (val : Bool) (k : Nat) :
    (Deb.run m { step := 0, value := val } k samples).2 = [] := by
  induction samples generalizing k with
  | nil => rfl
  | cons s ss ih => simp [Deb.run, Deb.sample, ih]

/-- constants of the source tree: 6 equal samples 20 ms apart span 100 ms; a stable level is
    notified 120 ms after its edge at the latest (first sample ≤ 20 ms after the edge) -/
theorem c11_consts : Gen.inputMinCycle = 5 ∧ Gen.inputCycleMs = 20 ∧
    Gen.inputMinCycle * Gen.inputCycleMs ≥ 100 ∧ (Gen.inputMinCycle + 1) * Gen.inputCycleMs ≤ 120 := by decide

/-- non-vacuity: a 4-sample pulse (80 ms) inside a low level is not notified as high -/
example : (Deb.run 5 { step := 1, value := false } 0
    [true, true, true, true, false, false, false, false, false, false]).2 = [(9, false)] := by decide

/-- the if-chain of `maxFromActions`, for any length -/
def greatest (p : Nat → Bool) : Nat → Nat
  | 0 => 0
  | n + 1 => if p (n + 1) then n + 1 else greatest p n

theorem le_greatest (p : Nat → Bool) (n k : Nat) (hn : k ≤ n) (hp : p k = true) : k ≤ greatest p n := by
  induction n with
  | zero => omega
  | succ n ih =>
    unfold greatest
    by_cases hk : k = n + 1
    · rw [← hk, if_pos hp]; exact Nat.le_refl k
    · split
      · exact hn
      · exact ih (by omega)

theorem greatest_holds (p : Nat → Bool) (n : Nat) (h : 0 < greatest p n) : p (greatest p n) = true := by
  induction n with
  | zero => exact absurd h (Nat.lt_irrefl 0)
  | succ n ih =>
    unfold greatest at h ⊢
    by_cases hp : p (n + 1) = true
    · rw [if_pos hp]; exact hp
    · rw [if_neg hp] at h ⊢; exact ih h

theorem maxFromActions_eq (a : Nat) :
    maxFromActions a = greatest (fun k => hasBit a (capPress k) || hasBit a (capToggle k)) 5 := rfl

/-- **C11.A (highest enabled multiplicity)** `max_clicks` as computed by set_active_triggers covers every enabled
    press / toggle multiplicity ... -/
theorem c11_max_clicks_covers (a k : Nat) (hk : 1 ≤ k ∧ k ≤ 5)
    (h : hasBit a (capPress k) = true ∨ hasBit a (capToggle k) = true) : k ≤ maxFromActions a := by
  rw [maxFromActions_eq]
  exact le_greatest _ 5 k hk.2 ((Bool.or_eq_true _ _).mpr h)

/-- ... and is itself enabled (0 when no press / toggle trigger is active) -/
theorem c11_max_clicks_enabled (a : Nat) (h : 0 < maxFromActions a) :
    hasBit a (capPress (maxFromActions a)) = true ∨ hasBit a (capToggle (maxFromActions a)) = true := by
  rw [maxFromActions_eq] at h ⊢
  exact (Bool.or_eq_true _ _).mp (greatest_holds _ 5 h)

/-- **C11.B (what a resolution can be)** the resolution of a click count is at most one action; a local relay
    action only for exactly one click on a button whose relay is still connected; a trigger only if it is in the
    active set, and then it is the trigger of exactly that click count -/
theorem c11_resolution (c : AtCfg) (s : AtSt) (a : Nat) :
    (sendAt c s a).length ≤ 1 ∧
    (∀ o ∈ sendAt c s a, (o = .localAct ∨ o = .localInact) → a = 0 ∧ s.click = 1 ∧ s.relayConn = true) ∧
    (∀ x, AtOut.trig x ∈ sendAt c s a → Nat.land x s.active ≠ 0 ∧ c.channel ≠ 255 ∧
      (a = 0 → x = countAction c s.click ∧ s.click ≠ -1)) ∧
    AtOut.cfgMode ∉ sendAt c s a := by
  rcases sendAt_cases c s a with h | ⟨o, h, ho, h1⟩ | ⟨y, h, h1⟩ <;> rw [h]
  · exact ⟨Nat.zero_le _, nofun, nofun, nofun⟩
  · -- one local relay action `o`
    refine ⟨Nat.le_refl 1, fun _ _ _ => h1, fun x hx => ?_, fun hx => ?_⟩
    · cases List.mem_singleton.mp hx; rcases ho with ho | ho <;> cases ho
    · cases List.mem_singleton.mp hx; rcases ho with ho | ho <;> cases ho
  · -- one trigger `y`
    refine ⟨Nat.le_refl 1, fun o ho hl => ?_, fun x hx => ?_, fun hx => nomatch List.mem_singleton.mp hx⟩
    · cases List.mem_singleton.mp ho; rcases hl with hl | hl <;> cases hl
    · cases List.mem_singleton.mp hx; exact h1

/-- **C11.C (a burst of quick clicks is resolved exactly once, as min(N, highest multiplicity))** a plain monostable
    button in action-trigger mode, idle, with a highest detectable count M ≥ 2: N ≥ 1 quick clicks (each released
    before the hold time, each followed by the next inside the multi-click time, timer callbacks at any instants
    in between) and then quiet for the multi-click time produce exactly the resolution of min(N, M) clicks -
    one trigger, or the local relay action when that count is one and the relay is connected, or nothing when that
    trigger is not enabled - and leave the button idle again. Clicks beyond M are swallowed. -/
theorem c11_burst_resolved_once (c : AtCfg) (s : AtSt) (cs : List (List Nat × List Nat)) (δf : Nat)
    (h : PlainMono c s) (hidle : s.last = false ∧ s.click = 0) (hm : 2 ≤ s.maxClicks)
    (hq : ∀ p ∈ cs, Quick c p.1 p.2) (hne : cs ≠ []) (hδ : c.multiUs ≤ δf) :
    (runAt c s (burst cs ++ [.wait δf])).2 =
        sendAt c { s with click := (min cs.length s.maxClicks : Nat), last := false } 0 ∧
    (runAt c s (burst cs ++ [.wait δf])).1.click = 0 ∧ (runAt c s (burst cs ++ [.wait δf])).1.armed = false ∧
    (runAt c s (burst cs ++ [.wait δf])).1.last = false := by
  obtain ⟨p, ps, rfl⟩ := List.exists_cons_of_ne_nil hne
  obtain ⟨-, h0⟩ := hidle
  -- `kb` names the count the burst leaves, so that the goal keeps it folded while `hkb` is rewritten case by case;
  -- the quiet period then resolves it
  obtain ⟨kb, hkb⟩ : ∃ kb, kb = countAfter s.maxClicks s.click (ps.length + 1) := ⟨_, rfl⟩
  let sb : AtSt := { s with last := false, armed := true, lastChange := 0, click := kb }
  have hquiet : stepAt c sb (.wait δf) = ({ sb with armed := false, click := 0 }, sendAt c sb 0) :=
    (tickD_released rfl rfl δf).trans (if_pos hδ)
  rw [runAt_append, burst_eq h hq hm (.inr (by omega)), ← hkb, runAt_cons_eq (.wait δf) hquiet]
  refine ⟨?_, rfl, rfl, rfl⟩
  simp only [runAt, List.append_nil, List.length_cons]
  have hlive : s.click ≠ -1 := by omega
  have hclosed := countAfter_closed (.inr (by omega)) (ps.length + 1) (M := s.maxClicks) (k := s.click)
  rw [← hkb] at hclosed
  by_cases hr : kb = -1
  · -- closed by the M-th click; the quiet period finds the count -1
    have hnone : sendAt c sb 0 = [] := by rw [sendAt, if_pos rfl, if_pos hr]
    rw [if_pos ⟨hlive, hr⟩, hnone, List.append_nil, Nat.min_eq_right (by omega)]
  · -- fewer than M clicks: the quiet period resolves the count reached
    have hlt : ¬ s.click + ((ps.length + 1 : Nat) : Int) ≥ (s.maxClicks : Int) := fun hh => hr (hclosed.mpr ⟨hlive, hh⟩).2
    rw [countAfter, if_neg hlive, if_neg hlt, h0, Int.zero_add] at hkb
    rw [if_neg fun hh => hr hh.2, Nat.min_eq_left (by omega)]
    exact sendAt_congr 0 hkb rfl rfl rfl

/-- **C11.D (nothing but that one resolution)** in particular the burst produces at most one action at all, a local relay
    action only when min(N, M) = 1, i.e. never for a multi-click when two or more clicks are detectable -/
theorem c11_burst_at_most_one (c : AtCfg) (s : AtSt) (cs : List (List Nat × List Nat)) (δf : Nat)
    (h : PlainMono c s) (hidle : s.last = false ∧ s.click = 0) (hm : 2 ≤ s.maxClicks)
    (hq : ∀ p ∈ cs, Quick c p.1 p.2) (hne : cs ≠ []) (hδ : c.multiUs ≤ δf) :
    (runAt c s (burst cs ++ [.wait δf])).2.length ≤ 1 ∧
    (∀ o ∈ (runAt c s (burst cs ++ [.wait δf])).2, (o = .localAct ∨ o = .localInact) → cs.length = 1) := by
  rw [(c11_burst_resolved_once c s cs δf h hidle hm hq hne hδ).1]
  obtain ⟨r1, r2, _, _⟩ := c11_resolution c { s with click := (min cs.length s.maxClicks : Nat), last := false } 0
  refine ⟨r1, fun o ho hl => ?_⟩
  -- a local action resolves one click: min(N, M) = 1, so N = 1 as M ≥ 2
  obtain ⟨-, hone, -⟩ := r2 o ho hl
  have hone : ((min cs.length s.maxClicks : Nat) : Int) = 1 := hone
  omega

/-- **C11.E (a long press is one hold trigger)** from idle: press, callbacks before the hold time, the first callback
    at or after it: exactly the hold trigger (if it is enabled), the click is consumed (counter 0, timer stopped) ... -/
theorem c11_hold_once (c : AtCfg) (s : AtSt) (wp : List Nat) (δh : Nat) (h : PlainMono c s)
    (hidle : s.last = false ∧ s.click = 0) (hwp : ∀ δ ∈ wp, δ < c.holdUs) (hδ : c.holdUs ≤ δh) :
    (runAt c s (.press :: (wp.map .wait ++ [.wait δh]))).2 = emit c s capHold ∧
    (runAt c s (.press :: (wp.map .wait ++ [.wait δh]))).1.click = 0 ∧
    (runAt c s (.press :: (wp.map .wait ++ [.wait δh]))).1.armed = false ∧
    (runAt c s (.press :: (wp.map .wait ++ [.wait δh]))).1.last = true ∧
    SameCfg s (runAt c s (.press :: (wp.map .wait ++ [.wait δh]))).1 := by
  let sp : AtSt := { s with last := true, armed := true, lastChange := 0, click := 1 }
  have hp : PlainMono c sp := h.of_active rfl
  have hpress : stepAt c s .press = (sp, []) := by rw [stepAt, change_press h 0, hidle.2]; rfl
  have hheld : ∀ δ ∈ wp, tickD c sp δ = (sp, []) := fun δ hδ' => wait_pressed_below hp rfl rfl (hwp δ hδ')
  have hhold : stepAt c sp (.wait δh) = ({ sp with click := 0, armed := false }, sendAt c sp capHold) :=
    (tickD_pressed hp rfl rfl δh).trans (if_pos ⟨rfl, hδ⟩)
  rw [runAt_cons_silent .press hpress, runAt_waits_silent hheld, runAt_cons_eq (.wait δh) hhold]
  -- `sendAt` with an action is `emit`, which looks at the active set only
  exact ⟨List.append_nil _, rfl, rfl, rfl, ⟨rfl, rfl, rfl⟩⟩

/-- ... and the release and whatever callbacks follow produce nothing more -/
theorem c11_after_hold_silent (c : AtCfg) (s : AtSt) (ws : List Nat) (h : PlainMono c s)
    (hs : s.last = true ∧ s.click = 0) :
    (runAt c s (.release :: ws.map .wait)).2 = [] := by
  have hr : PlainMono c { s with last := false, armed := true, lastChange := 0 } := h.of_active rfl
  rw [runAt_cons_silent .release (change_release h 0)]
  exact runAt_waits_idle hr rfl hs.2 ws

/-- non-vacuity: PRESS_x2 and PRESS_x3 active (highest count 3), relay behind the button: a double click sends
    PRESS_x2, five clicks send PRESS_x3, a single click switches the relay - the premises of the theorems above hold
    for this state. `cap := 64512` = 2^10 + .. + 2^15: HOLD and PRESS_x1 .. PRESS_x5. -/
example :
    let c : AtCfg := { typ := 2, cap := 64512, channel := 5, hasRelay := true, isRs := false, cfgHold := false,
                       cfgToggle := false, holdUs := 700000, multiUs := 300000, cfgPressUs := 5000000 }
    let s := setActive c {} (capPress 2 + capPress 3)
    let q : List Nat × List Nat := ([20000, 40000], [20000, 40000, 60000])
    s.maxClicks = 3 ∧ s.relayConn = true ∧
    (runAt c s (burst [q, q] ++ [.wait 300000])).2 = [.trig (capPress 2)] ∧
    (runAt c s (burst [q, q, q, q, q] ++ [.wait 300000])).2 = [.trig (capPress 3)] ∧
    (runAt c s (burst [q] ++ [.wait 300000])).2 = [.localAct] := by decide

end SuplaVerif.C11
