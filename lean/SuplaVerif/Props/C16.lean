/-
  Props/C16 — MQTT receive: exact delivery under any segmentation, no OOB on bad packets.

  Theorems about the byte-level model of mqtt_unpack_fixed_header / mqtt_unpack_publish_response:
  every PUBLISH that is unpacked has its topic and payload inside the bytes that were received,
  for every byte string.  Second half (C16.3 ..): the receive loop of one connection
  (supla_esp_mqtt_conn_recv_cb handing segments over in parts, __mqtt_recv taking complete packets out of the
  buffer; Model/MqttRecv): for every list of segments, timer syncs and outside errors the packets handed to
  the handler are exactly the successive packets of the accepted byte stream, in order, at most once; the
  result does not depend on the segmentation; a stream of complete packets that fit the buffer is delivered
  completely; a malformed packet is an error and nothing behind it is handed over.
  C16.8-9: for every byte string the remaining-length field is never read beyond four bytes and an accepted
  length is below 2^28.  C16.10-13: the queue bookkeeping of __mqtt_recv (Model/MqttAck): for every queue an
  accepted acknowledgement has its request in it; for every queue, every event and every history of broker
  packets, own requests, sends and cleanings the callbacks are those of the flow specification.
-/
import SuplaVerif.Lemmas.MqttParse
import SuplaVerif.Lemmas.MqttLive
import SuplaVerif.Lemmas.MqttAck

namespace SuplaVerif.C16
open Bytes

/-- **C16.1 (publish in bounds)** whatever the flags, the declared remaining length and the
    bytes: a successfully unpacked PUBLISH has topic and payload inside the packet, the payload
    ends exactly at the end of the packet, and the packet id (QoS > 0) is read inside it. -/
theorem c16_publish_in_bounds (flags rem hdr : Nat) (body : Bytes) (p : Publish)
    (h : unpackPublish flags rem hdr body = .publish p) :
    p.topicOff = hdr + 2 ∧ p.topicOff + p.topicLen ≤ p.payloadOff ∧
    p.payloadOff + p.payloadLen = hdr + rem ∧ p.consumed = hdr + rem ∧
    (p.qos > 0 → p.topicOff + p.topicLen + 2 = p.payloadOff) := by
  revert h
  fun_cases unpackPublish flags rem hdr body <;> intro h <;> cases h
  refine ⟨rfl, ?_, ?_, rfl, fun hq => ?_⟩ <;> simp only [pidLen] at *
  · omega
  · omega
  · rw [if_pos hq]

theorem otherPacket_not_publish (ty flags rem hdr len : Nat) (p : Publish) :
    otherPacket ty flags rem hdr len ≠ .publish p := by
  fun_cases otherPacket ty flags rem hdr len <;> intro h <;> cases h

theorem unpackResponse_publish (b : Bytes) (p : Publish) :
    unpackResponse b = .publish p → ∃ rem hdr, remLen b 5 1 0 0 = some (some (rem, hdr)) ∧
      (b.getD 0 0).toNat / 16 = 3 ∧ hdr + rem ≤ b.length ∧
      unpackPublish ((b.getD 0 0).toNat % 16) rem hdr (b.drop hdr) = .publish p := by
  -- cases of `unpackResponse` in the order of its text: 1 no byte, 2 one byte, 3 no length yet (all need more), 4 invalid length,
  -- 5 forbidden type, 6 another control type, 7 type 3 not complete yet, 8 type 3 complete
  fun_cases unpackResponse b with
  | case6 => exact fun h => absurd h (otherPacket_not_publish _ _ _ _ _ _)     -- another control type
  | case8 _ _ _ _ rem hdr hr =>                  -- the four `_`: ¬ length = 0, the lets `ty` and `flags`, ¬ length = 1
    intro h
    have := MqttRecv.remLen_hdr hr
    exact ⟨rem, hdr, hr, by omega, by omega, h⟩
  | _ => intro h; cases h                          -- need more, invalid length, forbidden type

/-- **C16.1b** the whole-packet unpacker only hands out a PUBLISH when all of its bytes have been
    received: `consumed ≤ length`, hence topic and payload are sub-ranges of the received data;
    and only for control type 3. -/
theorem c16_response_in_buffer (b : Bytes) (p : Publish) (h : unpackResponse b = .publish p) :
    p.consumed ≤ b.length ∧ p.topicOff + p.topicLen ≤ b.length ∧
    p.payloadOff + p.payloadLen ≤ b.length ∧ (b.getD 0 0).toNat / 16 = 3 := by
  obtain ⟨rem, hdr, _, hty, hl, hp⟩ := unpackResponse_publish b p h
  have := c16_publish_in_bounds _ _ _ _ _ hp
  omega

/-- **C16.2 (malformed lengths are errors)** a PUBLISH whose topic length (plus packet id) does
    not fit in the remaining length is a protocol error, never a callback. -/
theorem c16_topic_overrun_is_error (flags rem hdr : Nat) (body : Bytes)
    (h : be16 body + 2 + pidLen (flags / 2 % 4) > rem) :
    unpackPublish flags rem hdr body = .err .malformed := by
  fun_cases unpackPublish flags rem hdr body
  · rfl             -- rem < 4
  · rfl             -- the overrun
  · contradiction   -- accepted

/-- non-vacuity: "a/b" <- "hello" at QoS 0; and the packet of the defect repaired by 8e66869 in /repo (topic length 255 with
    a remaining length of 5) is an error -/
example : unpackResponse [0x30, 0x0a, 0, 3, 0x61, 0x2f, 0x62, 0x68, 0x65, 0x6c, 0x6c, 0x6f] =
    .publish { qos := 0, dup := 0, retain := 0, pid := 0, topicOff := 4, topicLen := 3,
               payloadOff := 7, payloadLen := 5, consumed := 12 } := by decide
example : unpackResponse [0x30, 0x05, 0, 0xff, 0x61, 0x2f, 0x62] = .err .malformed := by decide

open MqttRecv

/-- **C16.3 (genuine, in order, at most once)** after any history of segments (of any size, also larger than
    the free space of the receive buffer), timer syncs and errors raised elsewhere, with any handler: the
    packets taken out of the buffer are the successive packets at the start of the accepted byte stream `A`,
    `A` is a prefix of the bytes the broker sent, and what is not yet handled is still in the buffer
    (nothing lost, nothing duplicated, nothing invented). -/
theorem c16_genuine (hok : List Bytes → Bytes → Bool) (cap : Nat) (es : List REv) :
    ∃ A, A <+: offered es ∧ A = (run parse hok cap {} es).hs.flatten ++ (run parse hok cap {} es).buf ∧
      Chain parse (run parse hok cap {} es).hs A ∧ (run parse hok cap {} es).buf.length ≤ cap := by
  obtain ⟨acc, a1, a2, _, _, _⟩ := run_inv parse_ok hok cap es {} [] (inv_init parse_ok cap)
  exact ⟨acc, a1, by simpa using a2.stream, by simpa using a2.chain, a2.bound⟩

/-- **C16.4 (the segmentation does not matter)** two histories that offer the same byte stream and both end
    without an error have handed exactly the same packets to the handler and keep the same incomplete tail:
    cutting the stream differently, coalescing packets or interleaving timer syncs changes nothing. -/
theorem c16_segmentation_independent (hok : List Bytes → Bytes → Bool) (cap : Nat) (es1 es2 : List REv)
    (hsame : offered es1 = offered es2)
    (h1 : (run parse hok cap {} es1).err = false) (h2 : (run parse hok cap {} es2).err = false) :
    (run parse hok cap {} es1).hs = (run parse hok cap {} es2).hs ∧
    (run parse hok cap {} es1).buf = (run parse hok cap {} es2).buf := by
  have a := run_clean parse_ok hok cap es1 h1
  have b := run_clean parse_ok hok cap es2 h2
  rw [hsame] at a
  exact chain_unique parse_ok _ _ _ _ _ a.stream b.stream a.chain b.chain (a.idle h1) (b.idle h2)

/-- **C16.5 (every well-formed packet is delivered exactly once)** if the broker's stream is a sequence of
    complete packets each of which fits the receive buffer, the handler accepts them and nothing else raises
    an error, then — however the stream is cut into TCP segments and wherever timer syncs fall — exactly these
    packets are handed over, in order, each once, and the buffer ends empty without an error. -/
theorem c16_delivery (hok : List Bytes → Bytes → Bool) (cap : Nat) (hcap : 0 < cap)
    (hall : ∀ hs q, hok hs q = true) (ps : List Bytes) (hv : ∀ q ∈ ps, Valid parse cap q)
    (es : List REv) (hne : NoExt es) (hstream : offered es = ps.flatten) :
    (run parse hok cap {} es).hs = ps ∧ (run parse hok cap {} es).err = false ∧
    (run parse hok cap {} es).buf = [] := by
  have l := run_live parse_ok hok cap hall hcap ps es hne {}
    { err := rfl, gap := rfl, idle := parse_ok.empty, stream := ⟨ps, hv, by simpa using hstream, rfl⟩ }
  obtain ⟨qs, hv', hb, hh⟩ := l.stream        -- qs: the complete packets still in the buffer
  rw [List.append_nil] at hb
  -- the kept bytes are complete packets and parse as "need more": there are none
  cases qs with
  | nil => exact ⟨by rw [← hh, List.append_nil], l.err, hb⟩
  | cons q qs =>
    have hneed := l.idle
    rw [hb, List.flatten_cons, parse_ok.pktStable q _ _ (hv' q List.mem_cons_self).1] at hneed
    cases hneed

/-- **C16.6 (a malformed packet is an error and blocks what follows)** when the bytes at the start of the
    buffer are a protocol violation the sync reports an error, hands nothing over and keeps the buffer: no
    later segment or sync can get a packet past it (by stability, `parse (buf ++ more) = bad`). -/
theorem c16_malformed_blocks (hok : List Bytes → Bytes → Bool) (cap : Nat) (hs : List Bytes) (buf more : Bytes)
    (hbad : parse buf = .bad) :
    drain parse hok cap hs (buf ++ more) = (hs, buf ++ more, true) := by
  rw [drain, parse_ok.badStable buf more hbad]

/-- **C16.7 (what a handled PUBLISH hands to the callback)** a handled packet of control type 3 is unpacked by
    `unpackResponse` (C16.1) to a PUBLISH whose topic and payload are sub-ranges of exactly that packet and
    whose payload ends with it: the callback never sees bytes of a neighbouring packet. -/
theorem c16_handled_publish_in_packet (q : Bytes) (n : Nat) (hq : parse q = .pkt n)
    (hty : (q.getD 0 0).toNat / 16 = 3) :
    ∃ p, unpackResponse q = .publish p ∧ p.consumed = n ∧ p.topicOff + p.topicLen ≤ n ∧
      p.payloadOff + p.payloadLen = n := by
  obtain ⟨rem, hdr, hr, hb⟩ := parse_pkt q n hq
  have hl := remLen_hdr hr
  have hc : ¬ q.length - hdr < rem := by have := parseBody_pkt q _ _ rem hdr n hb; omega
  -- `unpackResponse` reads the same header
  have hu : unpackResponse q = unpackPublish ((q.getD 0 0).toNat % 16) rem hdr (q.drop hdr) := by
    rw [unpackResponse, if_neg (by omega), if_neg (by omega), hr, hty]; simp only
    rw [if_neg (by decide), if_neg (by decide), if_neg hc]
  rw [hty, parseBody_publish q _ rem hdr hc] at hb
  rw [hu]
  cases hp : unpackPublish ((q.getD 0 0).toNat % 16) rem hdr (q.drop hdr) with
  | publish p =>
    rw [hp] at hb; injection hb with hb
    have := c16_publish_in_bounds _ _ _ _ _ hp
    exact ⟨p, rfl, hb, by omega, by omega⟩
  | _ => rw [hp] at hb; cases hb

/-- non-vacuity of C16.5: CONNACK, a QoS-1 PUBLISH and a PINGRESP in a 16-byte buffer, cut into segments of 1, 9, 2 and 8 bytes
    (the second exceeds the free space and is handed over in parts), with a timer sync in between -/
example :
    let connack : Bytes := [0x20, 2, 0, 0]
    let pub : Bytes := [0x32, 0x0c, 0, 3, 0x61, 0x2f, 0x62, 0, 7, 0x68, 0x65, 0x6c, 0x6c, 0x6f]
    let ping : Bytes := [0xd0, 0]
    let stream := connack ++ pub ++ ping
    (run parse (fun _ _ => true) 16 {} [.seg (stream.take 1), .seg ((stream.drop 1).take 9), .sync,
        .seg ((stream.drop 10).take 2), .seg (stream.drop 12)]).hs = [connack, pub, ping] := by
  intro connack pub ping stream
  refine (c16_delivery (fun _ _ => true) 16 (by decide) (fun _ _ => rfl) [connack, pub, ping] ?_ _ ?_ ?_).1
  · unfold Valid; decide
  · unfold NoExt; decide
  · decide

/-- non-vacuity of C16.6: the packet of 8e66869 blocks the stream -/
example : parse [0x30, 0x05, 0, 0xff, 0x61, 0x2f, 0x62] = .bad := by decide

/-- **C16.8 (impossible length)** a fixed header whose remaining-length field continues beyond four bytes is a protocol
    error for every byte string, whatever follows: it is never waited for and never handed over (with C16.6 nothing
    behind it is handed over either). -/
theorem c16_five_byte_length_is_error (b : Bytes) (hl : 5 ≤ b.length)
    (h1 : (b.getD 1 0).toNat ≥ 128) (h2 : (b.getD 2 0).toNat ≥ 128) (h3 : (b.getD 3 0).toNat ≥ 128)
    (h4 : (b.getD 4 0).toNat ≥ 128) :
    parse b = .bad ∧ unpackResponse b = .err .invalidRemLen := by
  have h := remLen_five b hl h1 h2 h3 h4
  constructor
  · unfold parse; rw [if_neg (by omega), h]
  · unfold unpackResponse; rw [if_neg (by omega), if_neg (by omega), h]

/-- **C16.9 (length field range)** an accepted remaining length is below 2^28 and was read from one to four bytes -/
theorem c16_remaining_length_bounded (b : Bytes) (rem hdr : Nat)
    (h : remLen b 5 1 0 0 = some (some (rem, hdr))) : rem < 268435456 ∧ 2 ≤ hdr ∧ hdr ≤ 5 := by
  have := remLen_hdr h
  omega

/-- non-vacuity of C16.8: a PUBLISH with a five-byte length, topic "t", payload "abcd" (the witness of seeded/C16_r10_1) -/
example : parse [0x30, 0x87, 0x80, 0x80, 0x80, 0x00, 0x00, 0x01, 0x74, 0x61, 0x62, 0x63, 0x64] = .bad := by decide
/-- non-vacuity of C16.9: the largest four-byte length -/
example : remLen [0x30, 0xff, 0xff, 0xff, 0x7f] 5 1 0 0 = some (some (268435455, 5)) := by decide

/-- **C16.10 (acknowledgement of something never sent)** for every queue and every acknowledgement: if it is accepted, the
    queue holds the message it answers - same control type, same packet id (for a PUBREC also: the PUBREL already packed in
    answer to an earlier copy of it). A search that ignores the type or the id would not have this property. -/
theorem c16_ack_needs_request (q : MqttAck.MQ) (p : MqttAck.Pkt) (ty pid : Nat) (ha : p.answers = some (ty, pid))
    (hok : (MqttAck.handle q p).2.err = false) :
    MqttAck.found q ty pid = true ∨ (p = .pubrec pid ∧ MqttAck.found q 6 pid = true) := by
  cases p with
  | publish a b => cases ha
  | puback x | pubrel x | pubcomp x | suback x | unsuback x => cases ha; exact Or.inl (MqttAck.ackOf_ok q _ _ _ hok)
  | pubrec x =>
    cases ha
    simp only [MqttAck.handle] at hok
    by_cases hf : MqttAck.found q 6 pid = true
    · exact Or.inr ⟨rfl, hf⟩
    · rw [if_neg hf] at hok; exact Or.inl (MqttAck.ackOf_ok q 3 _ (some 6) hok)

/-- **C16.11 (one event refines the flow specification)** `Inv`: at most one PUBREC per packet id waits for its PUBREL; `Abs`: the
    open flows of the specification are the ids with a waiting PUBREC. Both are kept by every event - a packet from the broker,
    a request of the client's own, sending, cleaning - and a PUBLISH is handed over exactly when the specification says so. -/
theorem c16_flow_step_refines (q : MqttAck.MQ) (o : List Nat) (e : MqttAck.Ev) (hI : MqttAck.Inv q) (hA : MqttAck.Abs q o)
    (hw : e.wf) :
    MqttAck.Inv (MqttAck.step q e).1 ∧ MqttAck.Abs (MqttAck.step q e).1 (MqttAck.specStep o e).1 ∧
    (∀ qos pid, e = .pkt (.publish qos pid) → (MqttAck.step q e).2.delivered = (MqttAck.specStep o e).2) := by
  have h := (MqttAck.inv_abs_iff q o).mp ⟨hI, hA⟩
  obtain ⟨a, b⟩ := (MqttAck.inv_abs_iff _ _).mpr (MqttAck.rep_step q o e h hw)
  exact ⟨a, b, fun qos pid he => he ▸ (MqttAck.publish_step q o h qos pid).2⟩

/-- **C16.12 (QoS 2 exactly once, for every history)** whatever the broker sends and however sending and cleaning of the queue
    interleave: the callbacks are exactly those of the flow specification - every QoS 0/1 PUBLISH, and of the QoS 2 PUBLISH
    packets with one packet id the first one and every first one after a PUBREL. In particular a packet id that is used again
    after its flow was released is a new message and is handed over. -/
theorem c16_qos2_exactly_once (es : List MqttAck.Ev) (q : MqttAck.MQ) (o : List Nat) (hI : MqttAck.Inv q)
    (hA : MqttAck.Abs q o) (hw : ∀ e ∈ es, e.wf) : MqttAck.deliveries q es = MqttAck.specDeliveries o es := by
  induction es generalizing q o with
  | nil => rfl
  | cons e es ih =>
    obtain ⟨h1, h2, h3⟩ := c16_flow_step_refines q o e hI hA (hw e List.mem_cons_self)
    unfold MqttAck.deliveries MqttAck.specDeliveries
    rw [ih _ _ h1 h2 (fun e' he' => hw e' (List.mem_cons_of_mem _ he'))]
    cases e with
    | pkt p =>
      cases p with
      | publish qos pid => rw [h3 qos pid rfl]
      | _ => rfl
    | _ => rfl

/-- the empty queue (a new connection) satisfies the hypotheses of C16.11/12 with no open flow -/
theorem c16_flow_init : MqttAck.Inv [] ∧ MqttAck.Abs [] [] := (MqttAck.inv_abs_iff [] []).mpr fun _ => rfl

/-- **C16.13 (QoS 1)** a QoS 1 PUBLISH is always handed over and its PUBACK carries the same packet id -/
theorem c16_qos1_delivered_and_acked (q : MqttAck.MQ) (pid : Nat) :
    (MqttAck.handle q (.publish 1 pid)).2 = { delivered := true, staged := some (4, pid) } := by
  simp [MqttAck.handle]

/-- non-vacuity, the history of the defect repaired by 95b367e in /repo: PUBLISH(7) - PUBREL(7) - PUBLISH(7) again, with
    acknowledgements and other traffic in between; both messages are handed over, the retransmission is not.
    46161, 60968: the first two packet ids of MQTT-C's `__mqtt_next_pid` (the client's SUBSCRIBE, its next request). -/
example : MqttAck.deliveries [⟨8, 46161, false⟩]
    [.pkt (.publish 2 7), .flush, .pkt (.publish 2 7), .pkt (.pubrel 7), .flush, .own 3 60968, .pkt (.publish 2 7), .pkt (.pubrel 7),
     .pkt (.suback 46161), .pkt (.publish 1 7)] = [(2, 7), (2, 7), (1, 7)] := by decide

end SuplaVerif.C16
