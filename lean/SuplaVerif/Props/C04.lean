/-
  Props/C04 — every connection starts with exactly one registration and carries nothing else until the
  server has accepted it; a refusal stops the client; a new connection starts clean.
-/
import SuplaVerif.Model.DevConn
import SuplaVerif.Gen.Consts
namespace SuplaVerif.C04

/-- what has been handed to the current connection, by registration state -/
def Inv (s : Dc) : Prop :=
  (s.up → s.srpc) ∧
  (s.registered = 0 ∨ s.registered = -1 ∨ s.registered = 1) ∧
  (s.up → s.registered = 0 → s.epoch = []) ∧
  (s.up → s.registered = -1 → s.epoch = [DcFrame.reg]) ∧
  (s.up → s.registered = 1 → ∃ rest, s.epoch = DcFrame.reg :: rest ∧ ∀ f ∈ rest, f = DcFrame.other)

theorem run_invariant {I : Dc → Prop} (hstep : ∀ s s' e, I s → s.step e = some s' → I s') :
    ∀ (es : List DcEv) (s s' : Dc), I s → s.run es = some s' → I s'
  | [], _, _, h, hr => Option.some.inj hr ▸ h
  | e :: es, s, s', h, hr => by
    unfold Dc.run at hr
    split at hr
    · next t hs => exact run_invariant hstep es t s' (hstep s t e h hs) hr
    · cases hr

theorem inv_init : Inv {} := by
  unfold Inv; simp

theorem Inv.of_down {s : Dc} (hu : s.up = false)
    (hr : s.registered = 0 ∨ s.registered = -1 ∨ s.registered = 1) : Inv s := by
  simp [Inv, hu, hr]

theorem sendReg_inv (s : Dc) (h : Inv s) : Inv s.sendReg := by
  have ⟨hsrpc, _, hnone, _, _⟩ := h
  fun_cases Dc.sendReg s
  · next hc =>                                   -- the request goes out: registered 0 → -1, `reg` joins the empty epoch
    refine ⟨hsrpc, by simp, by simp, fun hu _ => ?_, by simp⟩
    simp [show s.up = true from hu, hnone hu hc.2]
  · exact h

theorem sendReg_fields (s : Dc) :
    s.sendReg.up = s.up ∧ s.sendReg.srpc = s.srpc ∧ (s.srpc → s.sendReg.registered ≠ 0) := by
  fun_cases Dc.sendReg s
  · exact ⟨rfl, rfl, fun _ => (by decide : (-1 : Int) ≠ 0)⟩
  · next hc => exact ⟨rfl, rfl, fun hs h0 => hc ⟨hs, h0⟩⟩

/-- the invariant is kept by every event the SDK can deliver -/
theorem inv_step (s s' : Dc) (e : DcEv) (h : Inv s) (hs : s.step e = some s') : Inv s' := by
  have ⟨hsrpc, hreg, _, _, haccepted⟩ := h
  revert hs
  -- cases of `Dc.step`: 1 start; 2-3 gotIp (resolving starts, ignored); 4-6 dnsFound (true, false, not resolving); then
  -- deliverable / not in pairs: 7 connectCb, 9 iterate, 11 regOk, 13 regRefused, 15 otherMsg, 17 disconnectCb, 19 reconFire,
  -- 21 stopFire; 23-24 localEv (sent, nothing sent); 25 lateData.  `cases hs` removes the undeliverable ones
  fun_cases Dc.step s e <;> intro hs <;> cases hs
  case case1 | case3 | case5 | case24 | case25 => exact h
  case case2 | case4 | case17 => exact .of_down rfl hreg       -- the connection is dropped
  case case19 | case21 => exact .of_down rfl (.inl rfl)        -- stop
  case case7 => simp [Inv]                                     -- up, unregistered, empty epoch
  case case9 | case13 | case15 => exact sendReg_inv s h
  case case11 hc =>                                            -- the request is out by now; it is accepted
    obtain ⟨isrpc, ireg, _, isent, iaccepted⟩ := sendReg_inv s h
    refine ⟨isrpc, by simp, by simp, by simp, fun hu _ => ?_⟩
    rcases ireg with r0 | rm | r1
    · exact absurd r0 ((sendReg_fields s).2.2 hc.2)
    · exact ⟨[], by simp [isent hu rm], by simp⟩
    · exact iaccepted hu r1
  case case23 hc =>                                            -- one more `other` frame
    obtain ⟨rest, he, hr⟩ := haccepted hc.2.2 hc.2.1
    refine ⟨hsrpc, hreg, fun _ h0 => ?_, fun _ hm => ?_, fun _ _ => ⟨rest ++ [DcFrame.other], by simp [he],
      List.forall_mem_append.mpr ⟨hr, by simp⟩⟩⟩
    · simp only at h0; omega                     -- registered = 1, not 0
    · simp only at hm; omega                     -- nor -1

theorem inv_run : ∀ (es : List DcEv) (s s' : Dc), Inv s → s.run es = some s' → Inv s' :=
  run_invariant inv_step

/-- C04 (first frame, exactly one): after any sequence of events the SDK can deliver — wifi changes,
    DNS answers, connects, disconnects at any moment, timers, server messages, local events — what the
    device has handed to the connection that is currently up is either nothing, or starts with the
    registration request and contains no second one -/
theorem c04_first_is_registration (es : List DcEv) (s : Dc) (h : Dc.run {} es = some s) (hu : s.up) :
    s.epoch = [] ∨ ∃ rest, s.epoch = DcFrame.reg :: rest ∧ ∀ f ∈ rest, f = DcFrame.other := by
  obtain ⟨_, hreg, hnone, hsent, haccepted⟩ := inv_run es {} s inv_init h
  rcases hreg with r | r | r
  · left; exact hnone hu r
  · right; exact ⟨[], hsent hu r, by simp⟩
  · right; exact haccepted hu r

/-- C04 (quiet until accepted): anything other than the registration request is on the connection only
    if the server has accepted the registration on this connection -/
theorem c04_quiet_until_accepted (es : List DcEv) (s : Dc) (h : Dc.run {} es = some s) (hu : s.up)
    (ho : DcFrame.other ∈ s.epoch) : s.registered = 1 := by
  obtain ⟨_, hreg, hnone, hsent, _⟩ := inv_run es {} s inv_init h
  rcases hreg with r | r | r
  · rw [hnone hu r] at ho; cases ho
  · rw [hsent hu r] at ho; simp at ho
  · exact r

/-- C04 (clean start): the connect callback always begins an empty epoch in the unregistered state, so
    the next iterate sends a registration -/
theorem c04_connect_starts_clean (s s' : Dc) (h : s.step .connectCb = some s') :
    s'.epoch = [] ∧ s'.registered = 0 ∧ s'.srpc ∧ s'.up ∧ (s'.sendReg).epoch = [DcFrame.reg] := by
  simp only [Dc.step] at h
  split at h
  · cases h; simp [Dc.sendReg]
  · cases h

/-- the source has the reset the model's connectCb relies on (extractor fact; without it a second connect
    that is not preceded by a stop keeps registered = 1 and the new connection carries no registration) -/
theorem c04_repo_connect_resets : Gen.dcConnectResets = true := by decide

/-- C04 (refusal): a refusal arms the stop; when it fires the client is stopped, unregistered, without a
    protocol instance and with the connection closed, and no later event makes it talk before a new
    start -/
theorem c04_refusal_stops (s s1 s2 : Dc) (h1 : s.step .regRefused = some s1) (h2 : s1.step .stopFire = some s2) :
    s2.started = false ∧ s2.srpc = false ∧ s2.up = false ∧ s2.registered = 0 := by
  simp only [Dc.step] at h1
  split at h1
  · cases h1
    cases h2; simp [Dc.stop]
  · cases h1

/-- bytes of an old connection can only sit in the receive staging buffer while the close of that connection is not yet reported -/
def StaleInv (s : Dc) : Prop := s.stale = true → s.closing = true

theorem sendReg_staleInv {s : Dc} (h : StaleInv s) : StaleInv s.sendReg := by
  unfold Dc.sendReg; split <;> exact h

theorem staleInv_step (s s' : Dc) (e : DcEv) (h : StaleInv s) (hs : s.step e = some s') : StaleInv s' := by
  have keep : s.stale = true → (s.up || s.closing) = true := fun hst => (h hst).symm ▸ Bool.or_true _
  revert hs
  fun_cases Dc.step s e <;> intro hs <;> cases hs   -- cases as at `inv_step`
  case case1 | case3 | case5 | case7 | case23 | case24 => exact h
  case case2 | case4 | case19 | case21 => exact keep           -- `closing` is kept or set
  case case9 | case11 | case13 | case15 => exact sendReg_staleInv h
  case case17 => exact Bool.noConfusion                        -- the buffer is emptied
  case case25 hc => exact fun _ => hc.1                        -- deliverable only while closing

/-- **C04 (no leftovers of the old connection)** in every history the SDK can deliver - including the server's last segments
    arriving after the device itself asked for the close -, when a new connection is established the receive staging buffer
    holds nothing of the old one: late data only arrives while the close is unreported, the close report clears the buffer, and
    the next connection is only established after that report. -/
theorem c04_no_stale_bytes_at_connect (es : List DcEv) (s s' : Dc) (h : Dc.run {} es = some s)
    (hc : s.step .connectCb = some s') : s'.stale = false := by
  have hi : StaleInv s := run_invariant staleInv_step es {} s nofun h
  simp only [Dc.step] at hc
  split at hc
  · next hp =>
    cases hc
    exact Bool.eq_false_iff.mpr fun hst => hp.2 (hi hst)
  · cases hc

/-- non-vacuity: refusal, the device closes, the acceptance of some earlier request arrives late, the close is reported, the
    device is started again and connects -/
example : (Dc.run {} [.start, .gotIp, .dnsFound true, .connectCb, .iterate, .regRefused, .stopFire, .lateData, .disconnectCb,
                      .start, .gotIp, .dnsFound true, .connectCb]).map (fun s => (s.stale, s.closing, s.up)) = some (false, false, true) := by
  decide
/-- the same history without the report of the close: the connect callback is not deliverable while the close is unreported -/
example : Dc.run {} [.start, .gotIp, .dnsFound true, .connectCb, .iterate, .regRefused, .stopFire, .lateData,
                     .start, .gotIp, .dnsFound true, .connectCb] = none := by decide

/-- non-vacuity: a full cycle connect, register, accept, talk, lose the connection, reconnect -/
example : (Dc.run {} [.start, .gotIp, .dnsFound true, .connectCb, .iterate, .regOk, .localEv, .disconnectCb, .localEv,
                      .reconFire, .gotIp, .dnsFound true, .connectCb, .iterate]).map (fun s => (s.epoch, s.registered))
    = some ([DcFrame.reg], -1) := by decide

end SuplaVerif.C04
