/-
  Props/C15 — the configuration page never reveals stored secrets.

  Secrecy is stated as non-interference: two configurations that agree on what the non-secret fields show (text fields
  up to their terminator) render to the same page, for every page variant of the source tree, formatting function,
  device name, MAC and state text.  (A substring formulation is not a property: a one-letter password is a substring of
  any page.)  What `%s` reads of a text field written by the form handler (C14) ends inside that field.

  Second half: every SUPLA page with its terminator fits its buffer, by a decidable condition on the regenerated
  arithmetic of its `ets_snprintf` call.
-/
import SuplaVerif.Model.Page
import SuplaVerif.Gen.Html
import SuplaVerif.Lemmas.Form

namespace SuplaVerif.C15
open Bytes

/-- two configurations look the same outside the secrets: equal views of every non-secret field.
    For Email/Username this ignores the bytes behind the first NUL (the long-password tail). -/
def SameOutsideSecrets (c c' : Cfg) : Prop := ∀ f : CfgField, f.secret = false → view c f = view c' f

/-- **C15.1 (generic)** a page whose argument list names no secret field does not depend on them -/
theorem c15_noninterference_generic (fmt : List Bytes → Bytes) (args : List CfgField)
    (hargs : ∀ f ∈ args, f.secret = false) (c c' : Cfg) (h : SameOutsideSecrets c c') :
    renderPage fmt args c = renderPage fmt args c' :=
  congrArg fmt (List.map_congr_left fun f hf => h f (hargs f hf))

/-- **C15.1 (the source tree)** no page variant names a secret field in an argument list
    (decided by the kernel over the regenerated table) -/
theorem c15_no_secret_argument : ∀ v ∈ Gen.pageArgs, ∀ f ∈ v.2, f.secret = false := by decide

/-- **C15.1** every page variant of the source tree is independent of the stored Wi-Fi password,
    location/MQTT password (incl. its tail behind the e-mail terminator) and AuthKey. -/
theorem c15_noninterference (v : String × List CfgField) (hv : v ∈ Gen.pageArgs)
    (fmt : List Bytes → Bytes) (c c' : Cfg) (h : SameOutsideSecrets c c') :
    renderPage fmt v.2 c = renderPage fmt v.2 c' :=
  c15_noninterference_generic fmt v.2 (c15_no_secret_argument v hv) c c' h

/-- the page-builder files read no secret field anywhere, not even for the buffer-length sum -/
theorem c15_no_secret_read_anywhere : ∀ v ∈ Gen.pageAllRefs, ∀ f ∈ v.2, f.secret = false := by decide

theorem view_of_terminated (c : Cfg) (f : CfgField) (ht : f.isText = true) (name tail : Bytes) (hn : ∀ x ∈ name, x ≠ 0)
    (h : c f = name ++ 0 :: tail) : view c f = name := by
  simp only [view, ht, if_true]
  rw [h, cstr_append_zero name tail hn]

/-- the long-password tail is invisible: changing the bytes of the e-mail/user-name field behind
    its first NUL does not change its view -/
theorem c15_tail_hidden (c : Cfg) (name tail tail' : Bytes) (hn : ∀ x ∈ name, x ≠ 0)
    (h : c .Email = name ++ 0 :: tail) (c' : Cfg) (h' : c' .Email = name ++ 0 :: tail') :
    view c .Email = view c' .Email :=
  (view_of_terminated c .Email rfl name tail hn h).trans (view_of_terminated c' .Email rfl name tail' hn h').symm

/-- the form model's and the page model's "read up to the first NUL" are the same function -/
theorem cstr_eq : ∀ (b : Bytes), SuplaVerif.cstr b = Bytes.cstr b := cstr_eq_bytes

/-- a string with a terminator inside splits at it: the bytes `cstr` returns, the terminator, a rest -/
theorem cstr_split : ∀ (b : Bytes), (Bytes.cstr b).length < b.length → ∃ r, b = Bytes.cstr b ++ 0 :: r :=
  fun b h => ⟨_, Bytes.cstr_split b h⟩

/-- **C15 ↔ C14 (the `%s` read stays inside the field)** the `view` of C15 reads a text field up to its first NUL; C14 proves
    that whatever the form handler leaves in a text field is `stored size w` with a terminator inside the field.  Joined:
    for every text field written by the form handler the page's `%s` argument reads fewer than `size` bytes, none of them
    NUL, and the field really is that string followed by a terminator - the read cannot run on into the neighbouring
    member (e.g. from the SSID into the Wi-Fi password behind it) -/
theorem c15_view_inside_stored_field (c : Cfg) (f : CfgField) (ht : f.isText = true) (size : Nat) (hs : 0 < size)
    (w : Bytes) (hw : w.length ≤ size) (h : c f = stored size w) :
    (view c f).length < size ∧ (0 : UInt8) ∉ view c f ∧ (c f).length ≤ size ∧ ∃ r, c f = view c f ++ 0 :: r := by
  have hlen := length_stored_le size hs w
  have hlt := cstr_length_lt _ (zero_mem_stored size w)
  simp only [view, ht, if_true, h]
  exact ⟨by omega, fun h0 => cstr_ne_zero _ 0 h0 rfl, hlen, _, Bytes.cstr_split _ hlt⟩

/-- non-vacuity: a 4-byte field holding "ab" -/
example : stored 4 [97, 98] = [97, 98, 0] ∧ Bytes.cstr (stored 4 [97, 98]) = [97, 98] := by decide

/-- every page variant exists and shows the SSID (non-vacuity of the table) -/
theorem c15_variants_present : Gen.pageArgs.length = 7 ∧ ∀ v ∈ Gen.pageArgs, CfgField.WIFI_SSID ∈ v.2 := by
  decide

theorem weighted_mono (a b : List Nat) (ls : List Nat) (h : leAll a b = true) : weighted a ls ≤ weighted b ls := by
  fun_induction leAll a b generalizing ls with
  | case1 => exact Nat.le_refl _                       -- no counts
  | case2 x xs y ys ih =>                              -- a count each
    simp only [Bool.and_eq_true, decide_eq_true_eq] at h
    obtain ⟨hxy, hrest⟩ := h
    cases ls with
    | nil => exact Nat.le_refl _
    | cons l ls => exact Nat.add_le_add (Nat.mul_le_mul_right l hxy) (ih ls hrest)
  | case3 => cases h                                   -- different lengths

/-- **C15 (fits, general)** whenever the regenerated numbers of a page satisfy the decidable condition `ok`, the page with
    its terminator fits `bufflen` - for every length of every string that is printed and every choice of the constant
    alternatives -/
theorem c15_fit_sound (p : PageFit) (h : p.ok = true) (ls : List Nat) (k : Nat) (hk : k ≤ p.constMax) :
    p.pageLen ls k + 1 ≤ p.buffLen ls := by
  unfold PageFit.ok at h
  simp only [Bool.and_eq_true, decide_eq_true_eq] at h
  obtain ⟨hcounts, hconst⟩ := h
  have := weighted_mono p.printed p.summed ls hcounts
  unfold PageFit.pageLen PageFit.buffLen
  omega

/-- **C15 (fits, this source tree)** every SUPLA page variant of /repo satisfies the condition: each string printed with %s
    has its strlen in the sum, every %02X prints an unsigned char, and the constant arguments are covered by the constant
    added to bufflen -/
theorem c15_pages_fit : ∀ p ∈ Gen.pageFit, p.ok = true := by decide

/-- non-vacuity of the table: the six SUPLA page variants are there -/
theorem c15_fit_variants : Gen.pageFit.length = 6 := by decide

end SuplaVerif.C15
