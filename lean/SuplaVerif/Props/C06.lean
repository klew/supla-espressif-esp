/-
  Props/C06 — relay output follows the last command; the reports tell the real state; one result per
  set-value request.  Then what the 2-slot out-queue does to a burst of reports, and which level
  `supla_esp_gpio_relay_switch` hands to relay_hi for a local switch request (C06.S1-S3).
-/
import SuplaVerif.Model.Relay
import SuplaVerif.Gen.Consts
namespace SuplaVerif.C06

/-- the pin carries the logical level, inverted exactly for active-low relays -/
theorem c06_polarity (c : RelayCfg) (s : RelaySt) (cmd : RelayCmd) :
    (relayStep c s cmd).1.out = (if c.loLevel then !(requested (s.logical c) cmd) else requested (s.logical c) cmd) := by
  cases cmd with
  | server sender v => by_cases h : v = 1 <;> simp [relayStep, relayHiReq, wantOf, requested, h]
  | «local» hi => rfl

theorem c06_step_follows (c : RelayCfg) (s : RelaySt) (cmd : RelayCmd) :
    (relayStep c s cmd).1.logical c = requested (s.logical c) cmd := by
  -- only the outer `.logical` written out, so that `c06_polarity` applies
  show (if c.loLevel then !(relayStep c s cmd).1.out else (relayStep c s cmd).1.out) = _
  rw [c06_polarity]
  cases c.loLevel <;> simp

/-- the level after a whole history: fold of the requests -/
def follow (before : Bool) : List RelayCmd → Bool
  | [] => before
  | cmd :: cmds => follow (requested before cmd) cmds

/-- C06 (output): after any sequence of server commands, local switch requests and timer expiries the
    output is the one requested by the most recent command -/
theorem c06_output_follows_last (c : RelayCfg) : ∀ (cmds : List RelayCmd) (s : RelaySt),
    (relayRun c s cmds).1.logical c = follow (s.logical c) cmds := by
  intro cmds
  induction cmds with
  | nil => intro s; rfl
  | cons cmd cmds ih =>
    intro s
    unfold relayRun follow
    rw [ih, c06_step_follows]

theorem follow_last_explicit (before : Bool) (cmds : List RelayCmd) (sender v : Int) :
    follow before (cmds ++ [.server sender v]) = decide (v = 1) := by
  induction cmds generalizing before with
  | nil => simp [follow, requested]
  | cons c cs ih => exact ih _

theorem c06_step_reports_truth (c : RelayCfg) (s : RelaySt) (cmd : RelayCmd) :
    lastValue (relayStep c s cmd).2 = some ((relayStep c s cmd).1.logical c) := by
  cases cmd <;> simp [relayStep, lastValue]

theorem lastValue_append (a b : List RelayEv) :
    lastValue (a ++ b) = (lastValue b).orElse (fun _ => lastValue a) := by
  induction a with
  | nil =>
    rw [List.nil_append]
    cases lastValue b <;> rfl
  | cons e es ih =>
    cases e with
    | value v =>
      simp only [List.cons_append, lastValue, ih]
      cases lastValue b <;> rfl
    | result sd ok => simp only [List.cons_append, lastValue, ih]

/-- C06 (reports): after any non-empty history the last reported value equals the real state -/
theorem c06_last_report_is_state (c : RelayCfg) : ∀ (cmds : List RelayCmd) (s : RelaySt), cmds ≠ [] →
    lastValue (relayRun c s cmds).2 = some ((relayRun c s cmds).1.logical c) := by
  intro cmds
  induction cmds with
  | nil => exact fun _ h => absurd rfl h
  | cons cmd cmds ih =>
    intro s _
    unfold relayRun
    cases cmds with
    | nil => simp [relayRun, c06_step_reports_truth]
    | cons c2 cs => rw [lastValue_append, ih _ (by simp)]; rfl

def results : List RelayEv → List (Int × Bool)
  | [] => []
  | .value _ :: es => results es
  | .result s ok :: es => (s, ok) :: results es

/-- C06 (answer): a set-value request is answered by exactly one result carrying its sender id, and the
    success flag says that the output matches the request (it always does on this path); local
    switching produces no result -/
theorem c06_one_result (c : RelayCfg) (s : RelaySt) (sender v : Int) :
    results (relayStep c s (.server sender v)).2 = [(sender, true)] := by
  -- the flag is `decide (logical level after = decide (v = 1))`, and that equation is `c06_step_follows`
  have h := c06_step_follows c s (.server sender v)
  simp only [relayStep, requested] at h
  simp [relayStep, results, h]

theorem c06_local_no_result (c : RelayCfg) (s : RelaySt) (hi : Nat) :
    results (relayStep c s (.local hi)).2 = [] := by
  simp [relayStep, results]

/-- the out-queue of /repo holds `protoParams.queue` packets: a burst that fits is accepted whole … -/
theorem c06_burst_fits (cap queued k : Nat) (h : queued + k ≤ cap) : burstAccepted cap queued k = k := by
  unfold burstAccepted; omega

/-- … and of a burst that does not fit exactly the last calls are refused: with the extracted capacity a
    timed command on a countdown-capable channel (extended value, value, result = 3 calls into an empty
    queue) loses one call — the set-value result, which is issued last (known finding) -/
theorem c06_burst_overflow_repo : Gen.protoParams.queue = 2 ∧ burstAccepted Gen.protoParams.queue 0 3 = 2 := by
  decide

/-- non-vacuity: on, toggle, off on an active-low relay -/
example : (relayRun { loLevel := true } { out := true } [.server 7 1, .local 255, .server 9 0]).1 = { out := true } ∧
    results (relayRun { loLevel := true } { out := true } [.server 7 1, .local 255, .server 9 0]).2 = [(7, true), (9, true)] := by
  decide

/-- **C06.S1** a toggle request on a plain channel, or on a staircase channel with button type 'toggle', inverts the relay -/
theorem c06_switch_toggles (stair : Bool) (stype : Nat) (isOn : Bool) (h : stair = false ∨ stype ≠ 0) :
    switchHi stair stype 255 isOn = (if isOn then 0 else 1) := by
  unfold switchHi
  rcases h with h | h <;> simp [h]

/-- **C06.S2** on a staircase channel with button type 'reset' every non-zero request switches on (and so re-arms the time),
    a request for 0 switches off -/
theorem c06_switch_staircase_reset (hi : Nat) (isOn : Bool) :
    switchHi true 0 hi isOn = (if hi = 0 then 0 else 1) := by
  unfold switchHi
  by_cases h : hi = 0 <;> simp [h]

/-- **C06.S3** an explicit request (0 or 1) is what relay_hi gets, staircase or not -/
theorem c06_switch_explicit (stair : Bool) (stype : Nat) (hi : Nat) (isOn : Bool) (h : hi = 0 ∨ hi = 1) :
    switchHi stair stype hi isOn = hi := by
  unfold switchHi
  rcases h with h | h <;> simp [h]

end SuplaVerif.C06
