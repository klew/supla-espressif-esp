/-
  Props/C02 — outgoing calls reach the wire intact, in order, exactly once or not at all.

  Quantifiers: every history (calls with any id/payload, iterate ticks, received segments,
  espconn_sent result scripts of any content), any length.  "No loss event" (`NoLoss`) is the
  observable hypothesis the property itself makes: no overflow was reported and espconn_sent
  never returned a hard error.
-/
import SuplaVerif.Lemmas.Io
import SuplaVerif.Lemmas.Out
import SuplaVerif.Gen.Consts

namespace SuplaVerif.C02

/-- observations of the OUT half inside a trace -/
def outObs : List Obs → List OObs
  | [] => []
  | .out o :: os => o :: outObs os
  | _ :: os => outObs os

@[simp] theorem outObs_nil : outObs [] = [] := rfl
@[simp] theorem outObs_append (a b : List Obs) : outObs (a ++ b) = outObs a ++ outObs b := by
  induction a with
  | nil => rfl
  | cons x xs ih => cases x <;> simp [outObs, ih]
@[simp] theorem outObs_map_out (l : List OObs) : outObs (l.map Obs.out) = l := by
  induction l with
  | nil => rfl
  | cons x xs ih => simp [outObs, ih]

/-- the frame queued by an event, if it is an accepted call on a live connection -/
def acceptedBy (P : ProtoParams) (al : Nat → Bool) (s : Io) : Ev → List Frame
  | .call c p => if s.dead then [] else (IoOut.accepted P al s.o c p).toList
  | _ => []

/-- frames of the calls accepted during a history, in issue order -/
def acceptedCalls (P : ProtoParams) (al : Nat → Bool) (s : Io) : List (Bytes × Ev) → List Frame
  | [] => []
  | (sc, e) :: es => acceptedBy P al s e ++ acceptedCalls P al (Io.step P al sc s e).1 es

theorem outObs_inHalf (P : ProtoParams) (sc : Bytes) (i : IoIn) : outObs (i.inHalf P sc).2.2 = [] := by
  fun_cases IoIn.inHalf P sc i <;> rfl

theorem asyncCall_eq (P : ProtoParams) (al : Nat → Bool) (s : IoOut) (c : Nat) (p : Bytes) :
    ∃ n, s.asyncCall P al c p =
      ({ s with nextRr := n, outQ := s.outQ ++ (IoOut.accepted P al s c p).toList },
        [.callret (match IoOut.accepted P al s c p with | none => 0 | some f => f.rrId)]) := by
  unfold IoOut.asyncCall
  by_cases hal : al c = true
  · rw [if_neg (by simp [hal])]
    cases IoOut.accepted P al s c p with
    | none => exact ⟨IoOut.nextId s.nextRr, by simp⟩
    | some f => exact ⟨_, rfl⟩
  · have : IoOut.accepted P al s c p = none := by unfold IoOut.accepted; rw [if_pos (by simpa using hal)]
    rw [if_pos (by simpa using hal), this]
    exact ⟨s.nextRr, by simp⟩

theorem devIterate_out (P : ProtoParams) (sc : Bytes) (s : Io) :
    outObs (Io.devIterate P sc s).2 =
      (s.o.dataWrite P []).2 ++
        (if (s.i.inHalf P sc).1 then ((s.o.dataWrite P []).1.outHalf P).2.2 else []) ∧
    (Io.devIterate P sc s).1.o =
      if (s.i.inHalf P sc).1 then ((s.o.dataWrite P []).1.outHalf P).2.1 else (s.o.dataWrite P []).1 := by
  unfold Io.devIterate Io.srpcIterate
  simp only
  have hin := outObs_inHalf P sc s.i
  generalize s.i.inHalf P sc = ri at hin
  obtain ⟨ok, i', o1⟩ := ri
  cases ok
  · simp [hin, outObs]
  · generalize IoOut.outHalf P (IoOut.dataWrite P s.o []).1 = ro
    obtain ⟨ok2, o', o2⟩ := ro
    cases ok2 <;> simp [hin, outObs]

section
-- passing `h : NoLoss (outObs (Io.step ..).2)` makes Lean unfold `NoLoss` and the event loop in it
attribute [local irreducible] NoLoss

theorem devIterate_conserves (P : ProtoParams) (sc : Bytes) (s : Io)
    (h : NoLoss (outObs (Io.devIterate P sc s).2)) :
    wireOf (outObs (Io.devIterate P sc s).2) ++ (Io.devIterate P sc s).1.o.pending = s.o.pending := by
  obtain ⟨ho, hs⟩ := devIterate_out P sc s
  rw [ho, NoLoss_append] at h
  have h0 := dataWrite_spec P s.o [] h.1
  rw [List.append_nil] at h0
  rw [ho, hs, wireOf_append, List.append_assoc]
  generalize (s.i.inHalf P sc).1 = ok at h ⊢
  cases ok
  · -- IN half failed; a bare `exact h0` unfolds `dataWrite` to decide `if false = true` (expensive)
    rw [if_neg Bool.false_ne_true, if_neg Bool.false_ne_true, wireOf_nil, List.nil_append]
    exact h0
  · simp only [if_true]
    rw [outHalf_spec P _ h.2]; exact h0

theorem devIterate_unchanged (P : ProtoParams) (sc : Bytes) (s : Io)
    (h : NoLoss (outObs (Io.devIterate P sc s).2)) :
    (Io.devIterate P sc s).1.o.nextRr = s.o.nextRr ∧ (Io.devIterate P sc s).1.o.ver = s.o.ver ∧
    (Io.devIterate P sc s).1.o.outQ.length ≤ s.o.outQ.length := by
  obtain ⟨ho, hs⟩ := devIterate_out P sc s
  rw [ho, NoLoss_append] at h
  obtain ⟨_, hq0, hn0, hv0⟩ := (dataWrite_shimTo P s.o [] h.1).unchanged
  rw [hs]
  generalize (s.i.inHalf P sc).1 = ok at h ⊢
  cases ok
  · -- IN half failed: only the retry ran
    rw [if_neg Bool.false_ne_true, hq0]
    exact ⟨hn0, hv0, Nat.le_refl _⟩
  · simp only [if_true] at h ⊢
    obtain ⟨hn, hv, hl⟩ := outHalf_unchanged P _ h.2
    exact ⟨hn.trans hn0, hv.trans hv0, by rw [← hq0]; exact hl⟩

theorem step_conserves (P : ProtoParams) (al : Nat → Bool) (sc : Bytes) (s : Io) (e : Ev)
    (h : NoLoss (outObs (Io.step P al sc s e).2)) :
    wireOf (outObs (Io.step P al sc s e).2) ++ (Io.step P al sc s e).1.o.pending =
      s.o.pending ++ Frame.enc (acceptedBy P al s e) := by
  revert h
  fun_cases Io.step P al sc s e <;> intro h
  case case1 hd =>  -- dead
    have hacc : acceptedBy P al s e = [] := by cases e <;> simp [acceptedBy, hd]
    simp [hacc, Frame.enc]
  case case2 hd d =>  -- recv
    revert h
    fun_cases Io.recvCb P sc s d <;> intro h
    · simp [acceptedBy, Frame.enc]  -- empty segment
    · simp [acceptedBy, Frame.enc, devIterate_conserves P sc _ h]  -- fits
    · simp [acceptedBy, Frame.enc, outObs]  -- does not fit: restart
  case case3 hd =>  -- tick
    simp [acceptedBy, Frame.enc, devIterate_conserves P sc s h]
  case case4 hd c p o obs hc =>  -- call
    obtain ⟨n, hn⟩ := asyncCall_eq P al s.o c p
    -- `hc : asyncCall .. = (o, obs)` is `Io.step`'s match equation: `o`, `obs` get substituted
    cases hn.symm.trans hc
    simp [acceptedBy, hd, outObs, wireOf, IoOut.pending, enc_append]
  case case5 =>  -- esp
    simp [acceptedBy, Frame.enc, IoOut.pending]

theorem run_conserves (P : ProtoParams) (al : Nat → Bool) (h : List (Bytes × Ev)) (s : Io)
    (hn : NoLoss (outObs (Io.run P al s h).2)) :
    wireOf (outObs (Io.run P al s h).2) ++ (Io.run P al s h).1.o.pending =
      s.o.pending ++ Frame.enc (acceptedCalls P al s h) := by
  induction h generalizing s with
  | nil => simp [Io.run, acceptedCalls, Frame.enc]
  | cons x xs ih =>
    obtain ⟨sc, e⟩ := x
    rw [Io.run_cons, outObs_append, NoLoss_append] at hn
    rw [Io.run_cons, acceptedCalls, outObs_append, wireOf_append, List.append_assoc, ih _ hn.2,
      ← List.append_assoc, step_conserves P al sc s e hn.1, enc_append, List.append_assoc]

end

/-- **C02.1 (conservation)** from a fresh connection, as long as no loss event was observed:
    bytes on the wire ++ bytes still buffered (shim, out buffer, out queue — in that order) equal
    the concatenation, in issue order, of the frames of the accepted calls. -/
theorem c02_conservation (P : ProtoParams) (al : Nat → Bool) (i : IoIn) (ver nextRr : Nat)
    (esp : List Int) (dead : Bool) (h : List (Bytes × Ev))
    (hn : NoLoss (outObs (Io.run P al ⟨i, { ver := ver, nextRr := nextRr, esp := esp }, dead⟩ h).2)) :
    wireOf (outObs (Io.run P al ⟨i, { ver := ver, nextRr := nextRr, esp := esp }, dead⟩ h).2) ++
      (Io.run P al ⟨i, { ver := ver, nextRr := nextRr, esp := esp }, dead⟩ h).1.o.pending =
    Frame.enc (acceptedCalls P al ⟨i, { ver := ver, nextRr := nextRr, esp := esp }, dead⟩ h) := by
  have := run_conserves P al h ⟨i, { ver := ver, nextRr := nextRr, esp := esp }, dead⟩ hn
  simpa [IoOut.pending, Frame.enc] using this

/-- **C02.1b (nothing lost, duplicated, reordered or interleaved)** the wire is a prefix of the
    concatenated frames of the accepted calls. -/
theorem c02_wire_prefix (P : ProtoParams) (al : Nat → Bool) (i : IoIn) (ver nextRr : Nat)
    (esp : List Int) (dead : Bool) (h : List (Bytes × Ev))
    (hn : NoLoss (outObs (Io.run P al ⟨i, { ver := ver, nextRr := nextRr, esp := esp }, dead⟩ h).2)) :
    wireOf (outObs (Io.run P al ⟨i, { ver := ver, nextRr := nextRr, esp := esp }, dead⟩ h).2) <+:
    Frame.enc (acceptedCalls P al ⟨i, { ver := ver, nextRr := nextRr, esp := esp }, dead⟩ h) := by
  rw [← c02_conservation P al i ver nextRr esp dead h hn]
  exact List.prefix_append _ _

/-- **C02.2 (round trip)** what is sent decodes to the same calls: the receiver grammar of C01
    recognises the concatenated frames of any list of valid calls as exactly those calls. -/
theorem c02_roundtrip (P : ProtoParams) (hP : P.WF) (fs : List Frame) (hv : ∀ f ∈ fs, f.Valid P) :
    goodFrames P (Frame.enc fs) = fs := by
  unfold goodFrames
  have := goodFramesFuel_enc P hP fs hv [] (Frame.enc fs).length (enc_length_ge fs)
  simp only [List.append_nil] at this
  rw [this]
  -- left: `goodFramesFuel` on `[]`; it is `[]` with or without fuel, as `parseHead P [] = needMore`
  cases h : (Frame.enc fs).length - fs.length <;> simp [goodFramesFuel, parseHead]

/-- **C02.3 (request ids)** the id given to an accepted call is non-zero, below 2^32, and is the
    successor of the previous id unless the 32-bit counter wraps (then it is 1). -/
theorem c02_rrid (n : Nat) :
    IoOut.nextId n ≠ 0 ∧ IoOut.nextId n < U32 ∧ (n + 1 < U32 → IoOut.nextId n = n + 1) := by
  unfold IoOut.nextId U32
  refine ⟨?_, ?_, ?_⟩
  · split <;> omega
  · split <;> omega
  · intro h; rw [Nat.mod_eq_of_lt h]; split <;> omega

/-- every accepted call carries the id `nextId` of the connection's counter, the connection's
    version, and exactly the caller's call id and payload; its payload is within the maximum -/
theorem c02_accepted_frame (P : ProtoParams) (al : Nat → Bool) (s : IoOut) (c : Nat) (p : Bytes)
    (f : Frame) (h : IoOut.accepted P al s c p = some f) :
    f = { ver := s.ver, rrId := IoOut.nextId s.nextRr, callId := c, payload := p } ∧
    p.length ≤ P.maxData ∧ s.outQ.length < P.queue ∧ al c = true := by
  unfold IoOut.accepted at h
  split at h; · cases h
  split at h; · cases h
  split at h; · cases h
  rename_i h1 h2 h3
  injection h with h
  exact ⟨h.symm, by omega, by omega, by simpa using h1⟩

/-- **C02.4 (reject or send)** a call returns 0 iff it was not accepted; an accepted call returns
    its (non-zero) request id and is appended to the queue. -/
theorem c02_reject_or_send (P : ProtoParams) (al : Nat → Bool) (s : IoOut) (c : Nat) (p : Bytes) :
    (IoOut.accepted P al s c p = none ∧ (s.asyncCall P al c p).2 = [.callret 0] ∧
      (s.asyncCall P al c p).1.outQ = s.outQ) ∨
    (∃ f, IoOut.accepted P al s c p = some f ∧ (s.asyncCall P al c p).2 = [.callret f.rrId] ∧
      f.rrId ≠ 0 ∧ (s.asyncCall P al c p).1.outQ = s.outQ ++ [f]) := by
  obtain ⟨n, hn⟩ := asyncCall_eq P al s c p
  rw [hn]
  cases hacc : IoOut.accepted P al s c p with
  | none => exact .inl ⟨rfl, rfl, List.append_nil _⟩
  | some f =>
    refine .inr ⟨f, rfl, rfl, ?_, rfl⟩
    rw [(c02_accepted_frame P al s c p f hacc).1]; exact (c02_rrid _).1

/-- **C02.5 (overflow is reported)** the send shim drops bytes only with the error log. -/
theorem c02_overflow_reported (P : ProtoParams) (s : IoOut) (d : Bytes) (hd : d.length > 0)
    (hov : s.shim.length + d.length > P.sendBuf) :
    s.shimAppend P d = (s, [.log "SENDOVF"]) := by
  unfold IoOut.shimAppend; rw [if_pos hd, if_pos hov]

/-- the out-buffer overflow (either append) is reported and ends the connection -/
theorem c02_outbuf_overflow_reported (P : ProtoParams) (s : IoOut) (f : Frame) (q : List Frame)
    (hq : s.outQ = f :: q) (hfail : (IoOut.outAppend P s.outb f).1 ≠ .ok) :
    (s.outHalf P).1 = false ∧ OObs.log "OUTAPPERR" ∈ (s.outHalf P).2.2 := by
  have hs := outAppend_spec P s.outb f
  unfold IoOut.outHalf IoOut.queueToBuf
  rw [hq]
  simp only
  generalize IoOut.outAppend P s.outb f = r at hs hfail ⊢
  rcases hs with ⟨h1, _⟩ | ⟨h1, h2⟩
  · exact absurd h1 hfail
  · rw [if_pos ⟨h1, h2⟩]; simp

/-- the shim buffer stays within its array -/
theorem c02_shim_bound (P : ProtoParams) (s : IoOut) (d : Bytes) (hs : s.shim.length ≤ P.sendBuf) :
    (s.shimAppend P d).1.shim.length ≤ P.sendBuf := by
  rcases shimAppend_cases P s d with e | ⟨e, hb⟩
  · rw [e]; exact hs  -- overflow: nothing stored
  · rw [e]
    show (s.shim ++ d).length ≤ P.sendBuf
    rw [List.length_append]
    by_cases h0 : d.length > 0
    · exact hb h0
    · omega

theorem c02_roundtrip_repo (fs : List Frame) (hv : ∀ f ∈ fs, f.Valid Gen.protoParams) :
    goodFrames Gen.protoParams (Frame.enc fs) = fs :=
  c02_roundtrip Gen.protoParams Gen.protoParams_wf fs hv

/-- non-vacuity: a concrete call is accepted, survives a transient refusal and reaches the wire
    whole (history: script [-5, 0], call 40 with payload [1,2], two iterates). -/
example :
    let r := Io.run Gen.protoParams (fun _ => true) { o := { ver := 23 } }
      [([], .esp [-5, 0]), ([], .call 40 [1, 2]), ([], .tick), ([], .tick)]
    NoLoss (outObs r.2) ∧ wireOf (outObs r.2) = Frame.bytes ⟨23, 1, 40, [1, 2]⟩ ∧ r.1.o.pending = [] := by
  decide

end SuplaVerif.C02
