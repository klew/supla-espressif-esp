/-
  Props/C05 — keep-alive, silent-server reconnect and watchdog restart happen within bounds.

  The decisions are taken once per second on `uptime_sec()` samples. By C19 the samples are non-decreasing; with the 1 s
  timers each whole second is sampled (callback jitter below the period). The theorems are therefore stated for the tick
  whose sample is exactly `k` seconds after the reference stamp, for every granted timeout T, stamp value and phase.
-/
import SuplaVerif.Model.KeepAlive
import SuplaVerif.Lemmas.Wrap
import SuplaVerif.Gen.Consts

namespace SuplaVerif.C05

/-- timer1 for a granted timeout `1 ≤ T < 2^32`: the guard is passed and `T` itself is compared as a natural number;
    `T + reconnectAdd` and `T - pingWindow` are still under `toU32`, since their bounds differ from result to result -/
theorem timer1_granted (K : KaConsts) (T : Nat) (hT : 1 ≤ T) (hW : T < W32) (now s r : Nat) :
    timer1 K T now s r =
      if toU32 ((T : Int) + K.reconnectAdd) ≤ subw now r then .reconnect
      else if (toU32 ((T : Int) - K.pingWindow) ≤ subw now s ∧ subw now s ≤ T) ∨
        (toU32 ((T : Int) - K.pingWindow) ≤ subw now r ∧ subw now r ≤ T)
      then .ping else .none := by
  unfold timer1
  rw [if_neg (by omega), toU32_natCast _ hW]

/-- **C05.1 (keep-alive)** `T - 5` seconds after the last transmission (nothing sent since, the
    server not yet overdue) the tick issues a ping: a frame is transmitted in every
    activity-timeout window.  For every granted timeout 5 ≤ T ≤ 240 and every stamp value
    (the second counter may wrap). -/
theorem c05_ping_at_window_start (K : KaConsts) (hK : K.pingWindow = 5) (T : Nat) (hT : 5 ≤ T) (hT2 : T < 100000)
    (s r : Nat) (hs : s < W32) (hr : r < W32)
    (hresp : subw ((s + (T - 5)) % W32) r < toU32 ((T : Int) + K.reconnectAdd)) :
    timer1 K T ((s + (T - 5)) % W32) s r = .ping := by
  have hW : T < W32 := by unfold W32; omega
  rw [timer1_granted K T (by omega) hW, if_neg (Nat.not_le.mpr hresp), hK, toU32_sub T 5 hT hW, subw_add_left,
    Nat.mod_eq_of_lt (by omega), if_pos (Or.inl ⟨Nat.le_refl _, Nat.sub_le _ _⟩)]

/-- **C05.1b** the same from the receive side: `T - 5` s after the last received message a ping
    is issued (so a prompt server is asked before the timeout expires) -/
theorem c05_ping_on_silence (K : KaConsts) (hK : K.pingWindow = 5) (hK2 : 0 < K.reconnectAdd) (hK3 : K.reconnectAdd < 1000)
    (T : Nat) (hT : 5 ≤ T) (hT2 : T < 100000) (s r : Nat) (hr : r < W32) :
    timer1 K T ((r + (T - 5)) % W32) s r = .ping ∨ timer1 K T ((r + (T - 5)) % W32) s r = .reconnect := by
  have hW : T + K.reconnectAdd < W32 := by unfold W32; omega
  left
  rw [timer1_granted K T (by omega) (by omega), toU32_add _ _ hW, hK, toU32_sub T 5 hT (by omega), subw_add_left,
    Nat.mod_eq_of_lt (by omega), if_neg (by omega), if_pos (Or.inr ⟨Nat.le_refl _, Nat.sub_le _ _⟩)]

/-- **C05.2 (recovery: reconnect)** with nothing received, the tick `T + 10` seconds after the
    last received message reconnects — no later than `T + 11` s in true time (one tick of phase). -/
theorem c05_reconnect_at (K : KaConsts) (T : Nat) (hT : 1 ≤ T) (hT2 : T < 100000) (hK3 : K.reconnectAdd < 1000)
    (s r : Nat) (hr : r < W32) :
    timer1 K T ((r + (T + K.reconnectAdd)) % W32) s r = .reconnect := by
  have hW : T + K.reconnectAdd < W32 := by unfold W32; omega
  rw [timer1_granted K T hT (by omega), toU32_add _ _ hW, subw_add_left, Nat.mod_eq_of_lt hW, if_pos (Nat.le_refl _)]

/-- **C05.2b (no early reconnect)** while less than `T + 10` s have passed since the last received
    message, timer1 never reconnects -/
theorem c05_no_early_reconnect (K : KaConsts) (T : Nat) (hT : 1 ≤ T) (hT2 : T < 100000) (hK3 : K.reconnectAdd < 1000)
    (s r k : Nat) (hr : r < W32) (hk : k < T + K.reconnectAdd) :
    timer1 K T ((r + k) % W32) s r ≠ .reconnect := by
  have hW : T + K.reconnectAdd < W32 := by unfold W32; omega
  rw [timer1_granted K T hT (by omega), toU32_add _ _ hW, subw_add_left, Nat.mod_eq_of_lt (by omega), if_neg (by omega)]
  split <;> simp

/-- **C05.3 (recovery: watchdog)** `wdTimeout + 1` seconds after the last received message the
    watchdog tick restarts the device (≤ 62 s in true time for the 60 s constant) -/
theorem c05_watchdog_restart (K : KaConsts) (T : Int) (r nc : Nat) :
    watchdog K T (r + K.wdTimeout + 1) r nc = .restart := by
  rw [watchdog, if_pos (by omega), if_pos (by omega)]

/-- **C05.3c (not early)** the watchdog never restarts the device until more than `wdTimeout` seconds have passed since
    the last received message -/
theorem c05_watchdog_not_early (K : KaConsts) (T : Int) (r nc k : Nat) (hk : k ≤ K.wdTimeout) :
    watchdog K T (r + k) r nc ≠ .restart := by
  -- cases of `watchdog`: 1 restart, 2 soft reconnect, 3 nothing to do, 4 `now` is not after the last response
  fun_cases watchdog K T (r + k) r nc
  case case1 => omega
  all_goals exact nofun

/-- **C05.4 (no spurious reconnect/restart)** for T ≤ 50 and a server that is heard from at most
    `T` seconds ago, neither timer decides to reconnect or restart -/
theorem c05_no_spurious (K : KaConsts) (hK1 : K.reconnectAdd = 10) (hK2 : K.wdTimeout = 60) (hK3 : K.wdSoft ≥ 60)
    (T : Nat) (hT : 10 ≤ T) (hT50 : T ≤ 50) (s r k nc : Nat) (hr : r < W32) (hk : k ≤ T)
    (hnow : r + k < W32) :
    timer1 K T ((r + k) % W32) s r ≠ .reconnect ∧ watchdog K T (r + k) r nc = .none := by
  refine ⟨c05_no_early_reconnect K T (by omega) (by omega) (by omega) s r k hr (by omega), ?_⟩
  fun_cases watchdog K T (r + k) r nc
  case case1 => omega   -- needs k > 60, but k ≤ T ≤ 50
  case case2 => omega   -- needs k > T
  case case3 | case4 => rfl

theorem kaRun_silent (es : List KaEv) : ∀ (s : KaClock), KaEv.recv ∉ es →
    (kaRun s es).lastResp = s.lastResp ∧ (kaRun s es).now = s.now + es.count .tick := by
  induction es with
  | nil => exact fun s _ => ⟨rfl, rfl⟩
  | cons e es ih =>
    intro s hno
    obtain ⟨h1, h2⟩ := ih (kaStep s e) fun h => hno (List.mem_cons_of_mem _ h)
    rw [kaRun, List.foldl_cons, ← kaRun, h1, h2, List.count_cons]
    cases e
    case recv => exact absurd List.mem_cons_self hno
    case tick => exact ⟨rfl, Nat.add_right_comm _ _ _⟩
    all_goals exact ⟨rfl, rfl⟩

/-- **C05.3b (nothing received means restart, whatever else happens)** from the moment of the last received message, any
    history of seconds passing, new connections, disconnects and own transmissions in which nothing is received leaves
    the watchdog deciding "restart" once `wdTimeout + 1` seconds have passed - a server that keeps accepting connections
    without ever answering does not postpone it. -/
theorem c05_silent_history_restarts (K : KaConsts) (T : Int) (r nc : Nat) (es : List KaEv) (hno : KaEv.recv ∉ es)
    (hsec : es.count .tick = K.wdTimeout + 1) :
    watchdog K T (kaRun ⟨r, r⟩ es).now (kaRun ⟨r, r⟩ es).lastResp nc = .restart := by
  obtain ⟨h1, h2⟩ := kaRun_silent es ⟨r, r⟩ hno
  rw [h1, h2, hsec]
  exact c05_watchdog_restart K T r nc

/-- non-vacuity: 61 s with a reconnect every 20 s -/
example : watchdog Gen.kaConsts 10
    (kaRun ⟨100, 100⟩ ((List.replicate 20 KaEv.tick ++ [.disconnect, .connect, .sent]) ++ (List.replicate 20 KaEv.tick ++ [.disconnect, .connect, .sent]) ++ List.replicate 21 KaEv.tick)).now
    (kaRun ⟨100, 100⟩ ((List.replicate 20 KaEv.tick ++ [.disconnect, .connect, .sent]) ++ (List.replicate 20 KaEv.tick ++ [.disconnect, .connect, .sent]) ++ List.replicate 21 KaEv.tick)).lastResp 0 = .restart := by decide

/-- constants of the source tree -/
theorem c05_consts : Gen.kaConsts.pingWindow = 5 ∧ Gen.kaConsts.reconnectAdd = 10 ∧
    Gen.kaConsts.wdTimeout = 60 ∧ Gen.kaConsts.wdSoft ≥ 60 := by decide

/-- non-vacuity: T = 10, 5 s after the last send a ping is due; 20 s after the last response a
    reconnect; 61 s a restart -/
example : timer1 Gen.kaConsts 10 105 100 103 = .ping := by decide
example : timer1 Gen.kaConsts 10 120 119 100 = .reconnect := by decide
example : watchdog Gen.kaConsts 10 161 100 0 = .restart := by decide

end SuplaVerif.C05
