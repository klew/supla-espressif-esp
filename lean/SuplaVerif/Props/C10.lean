/-
  Props/C10 — a roller shutter's positioning task stops at the first accounting callback at or beyond its target, on its way and
  from rest (started at once or parked for the delayed trigger); a plain move without progress ends at the 10-minute limit;
  at rest and after a stop command nothing starts the motor; the blind's task stages; the auto-calibration steps.
  `Mov`, `psi`, `CarryOk`, `PlainU`, `FbPlain` .. are the `D` definitions of Lemmas/RsRun unfolded, by rfl.
-/
import SuplaVerif.Lemmas.FbTask
import SuplaVerif.Props.C09
import SuplaVerif.Model.AutoCal
import SuplaVerif.Gen.Consts
namespace SuplaVerif.C10

/-- C10 (power limit): a shutter driven down by a plain command while no closing time is configured (nothing
    turns run time into position: not calibrated, times discarded) — for every sequence of accounting
    callbacks, if the output is still on then the run time so far is below 600.2 s; so the output is off at
    the first callback at which 600 s + one reporting period have passed -/
theorem c10_power_limit (P : RsP) (hfc : P.fc = 0) (s : RsT) (dts : List Nat)
    (h0 : s.rel = 1 ∧ s.downT = 0 ∧ s.tstate = 0 ∧ s.pend = 0 ∧ s.comm < 200000) :
    (rsRun P s dts).rel = 1 → C09.sum dts < 600200000 :=
  (power_limitD false P hfc s dts h0).1

theorem c10_power_limit_off (P : RsP) (hfc : P.fc = 0) (s : RsT) (dts : List Nat)
    (h0 : s.rel = 1 ∧ s.downT = 0 ∧ s.tstate = 0 ∧ s.pend = 0 ∧ s.comm < 200000)
    (hT : 600200000 ≤ C09.sum dts) : (rsRun P s dts).rel = 0 :=
  (power_limitD false P hfc s dts h0).2 hT

/-- `PlainD true` -/
def PlainU (s : RsT) : Prop :=
  s.tstate = 0 ∧ s.pend = 0 ∧ (s.rel = 0 ∨ s.rel = 2) ∧ s.comm < 200000 ∧
  (s.rel = 2 → s.upT > 600000000 → s.upT ≤ 600000000 + s.comm)

theorem plain_tick_up (P : RsP) (hfo : P.fo = 0) (s : RsT) (dt : Nat) (h : PlainU s) :
    PlainU (rsTick P s dt) ∧
    ((rsTick P s dt).rel = 2 → s.rel = 2 ∧ (rsTick P s dt).upT = s.upT + dt) :=
  plain_tickD true P hfo s dt h

theorem plain_run_up (P : RsP) (hfo : P.fo = 0) : ∀ (dts : List Nat) (s : RsT), PlainU s →
    PlainU (rsRun P s dts) ∧
    ((rsRun P s dts).rel = 2 → s.rel = 2 ∧ (rsRun P s dts).upT = s.upT + C09.sum dts) :=
  plain_runD true P hfo

/-- C10 (power limit, upward): a shutter driven up by a plain command while no opening time is configured — for every
    sequence of accounting callbacks, an output still on means the run time so far is below 600.2 s -/
theorem c10_power_limit_up (P : RsP) (hfo : P.fo = 0) (s : RsT) (dts : List Nat)
    (h0 : s.rel = 2 ∧ s.upT = 0 ∧ s.tstate = 0 ∧ s.pend = 0 ∧ s.comm < 200000) :
    (rsRun P s dts).rel = 2 → C09.sum dts < 600200000 :=
  (power_limitD true P hfo s dts h0).1

theorem c10_power_limit_off_up (P : RsP) (hfo : P.fo = 0) (s : RsT) (dts : List Nat)
    (h0 : s.rel = 2 ∧ s.upT = 0 ∧ s.tstate = 0 ∧ s.pend = 0 ∧ s.comm < 200000)
    (hT : 600200000 ≤ C09.sum dts) : (rsRun P s dts).rel = 0 :=
  (power_limitD true P hfo s dts h0).2 hT

theorem movePos_nofull_any (c : MvCfg) (m : Mv) (h : c.fullMs = 0) : movePos c m = m :=
  movePos_nofull c m h

/-- `fun s => PlainD false s.core` -/
def FbPlain (s : FbT) : Prop :=
  s.tstate = 0 ∧ s.pend = 0 ∧ (s.rel = 0 ∨ s.rel = 1) ∧ s.comm < 200000 ∧
  (s.rel = 1 → s.downT > 600000000 → s.downT ≤ 600000000 + s.comm)

theorem fb_plain_tick (P : FbP) (hfc : P.fc = 0) (s : FbT) (dt : Nat) (h : FbPlain s) :
    FbPlain (fbTick P s dt) ∧
    ((fbTick P s dt).rel = 1 → s.rel = 1 ∧ (fbTick P s dt).downT = s.downT + dt) :=
  fb_plain_tickD false P hfc s dt h

theorem fb_plain_run (P : FbP) (hfc : P.fc = 0) : ∀ (dts : List Nat) (s : FbT), FbPlain s →
    FbPlain (fbRun P s dts) ∧
    ((fbRun P s dts).rel = 1 → s.rel = 1 ∧ (fbRun P s dts).downT = s.downT + C09.sum dts) := by
  intro dts s h
  have r := plain_runD false P.core hfc dts s.core h
  rwa [← core_run false P hfc dts s h] at r

/-- `fun s => PlainD true s.core` -/
def FbPlainU (s : FbT) : Prop :=
  s.tstate = 0 ∧ s.pend = 0 ∧ (s.rel = 0 ∨ s.rel = 2) ∧ s.comm < 200000 ∧
  (s.rel = 2 → s.upT > 600000000 → s.upT ≤ 600000000 + s.comm)

theorem fb_plain_tick_up (P : FbP) (hfo : P.fo = 0) (s : FbT) (dt : Nat) (h : FbPlainU s) :
    FbPlainU (fbTick P s dt) ∧
    ((fbTick P s dt).rel = 2 → s.rel = 2 ∧ (fbTick P s dt).upT = s.upT + dt) :=
  fb_plain_tickD true P hfo s dt h

theorem fb_plain_run_up (P : FbP) (hfo : P.fo = 0) : ∀ (dts : List Nat) (s : FbT), FbPlainU s →
    FbPlainU (fbRun P s dts) ∧
    ((fbRun P s dts).rel = 2 → s.rel = 2 ∧ (fbRun P s dts).upT = s.upT + C09.sum dts) := by
  intro dts s h
  have r := plain_runD true P.core hfo dts s.core h
  rwa [← core_run true P hfo dts s h] at r

/-- C10 (power limit, facade blind, down): a blind driven down by a plain command while no closing time is configured (whatever
    the tilt mode) — for every sequence of accounting callbacks an output still on means the run time so far is below
    600.2 s, so it is off once 600.2 s of callbacks have passed -/
theorem c10_fb_power_limit (P : FbP) (hfc : P.fc = 0) (s : FbT) (dts : List Nat)
    (h0 : s.rel = 1 ∧ s.downT = 0 ∧ s.tstate = 0 ∧ s.pend = 0 ∧ s.comm < 200000) :
    ((fbRun P s dts).rel = 1 → C09.sum dts < 600200000) ∧ (600200000 ≤ C09.sum dts → (fbRun P s dts).rel = 0) :=
  fb_power_limitD false P hfc s dts h0

/-- C10 (power limit, facade blind, up): a blind driven up by a plain command while no opening time is configured (whatever
    the tilt mode) — for every sequence of accounting callbacks an output still on means the run time so far is below
    600.2 s, so it is off once 600.2 s of callbacks have passed -/
theorem c10_fb_power_limit_up (P : FbP) (hfo : P.fo = 0) (s : FbT) (dts : List Nat)
    (h0 : s.rel = 2 ∧ s.upT = 0 ∧ s.tstate = 0 ∧ s.pend = 0 ∧ s.comm < 200000) :
    ((fbRun P s dts).rel = 2 → C09.sum dts < 600200000) ∧ (600200000 ≤ C09.sum dts → (fbRun P s dts).rel = 0) :=
  fb_power_limitD true P hfo s dts h0

/-- **C10 (blinds: ten minutes)** the reporting block switches a blind off as soon as either run time exceeds ten minutes -/
theorem c10_fb_limit_off (s : FbT) (dt : Nat) (hc : s.comm + dt ≥ 200000)
    (hl : s.upT > 600000000 ∨ s.downT > 600000000) : (fbCommStep s dt).rel = 0 := by
  unfold fbCommStep
  rw [if_pos hc, if_pos hl]
  simp [fbRelOff]

/-- the shutter is executing a task downwards -/
def Mov (s : RsT) : Prop :=
  s.tstate = 2 ∧ s.dir = 1 ∧ s.rel = 1 ∧ s.pend = 0 ∧ 100 ≤ s.pos ∧ s.pos ≤ 10100

/-- Ψ of the task model: estimated position × full time + 10⁴ × carried run time -/
def psi (P : RsP) (s : RsT) : Nat := s.pos * (P.fc * 1000) + 10000 * s.downT

/-- loose bound on the carried time while a downward task is running: below the end stop less than one
    position unit, at the end stop less than the task's margin -/
def CarryOk (P : RsP) (s : RsT) : Prop :=
  10000 * s.downT < P.fc * 1000 + 10000 + 100000 * P.fc * (taskMargin P + 1)

/-- `CarryOkD true` -/
def CarryOkU (P : RsP) (s : RsT) : Prop :=
  10000 * s.upT < P.fo * 1000 + 10000 + 100000 * P.fo * (taskMargin P + 1)

/-- `MovD true` -/
def MovU (s : RsT) : Prop :=
  s.tstate = 2 ∧ s.dir = 2 ∧ s.rel = 2 ∧ s.pend = 0 ∧ 100 ≤ s.pos ∧ s.pos ≤ 10100

/-- `psiT true` -/
def psiU (P : RsP) (s : RsT) : Nat := (10100 - s.pos) * (P.fo * 1000) + 10000 * s.upT

/-- stop at the target: the first callback at which the estimated position is at or beyond the target (and
    not inside the end-stop margin) switches the motor off -/
theorem task_reached_stops (P : RsP) (s : RsT) (h : Mov s) (htp : 0 < s.target)
    (hreach : s.pos - 100 ≥ s.target * 100)
    (hnm : ¬ (s.pos - 100 = 10000 ∧ inMargin P.fc s.downT (taskMargin P) = true)) :
    (taskStep P s).rel = 0 ∧ (taskStep P s).tstate = 2 ∧ (taskStep P s).dir = 0 ∧ (taskStep P s).pos = s.pos ∧
    (taskStep P s).pend = 0 := by
  obtain ⟨hts, hdir, _, _, hlo, hhi⟩ := h
  rw [taskStep_moving false P s hts hdir ⟨hlo, hhi⟩ htp,
    if_pos ⟨hreach, fun hh => hnm ⟨by have : 10100 - s.pos = 0 := hh.1; omega, hh.2⟩⟩]  -- `remaining false p = 10100 - p`
  exact ⟨rfl, hts, rfl, rfl, rfl⟩

/-- before the target nothing changes: the motor keeps running -/
theorem task_not_reached_runs (P : RsP) (s : RsT) (h : Mov s) (hb : s.pos - 100 < s.target * 100) :
    taskStep P s = s := by
  obtain ⟨hts, hdir, _, _, hlo, hhi⟩ := h
  rw [taskStep_moving false P s hts hdir ⟨hlo, hhi⟩ (show 0 < s.target by omega), if_neg (fun hh => Nat.not_le.mpr hb hh.1)]

theorem task_reached_stops_up (P : RsP) (s : RsT) (h : MovU s) (htg : s.target < 100)
    (hreach : s.pos - 100 ≤ s.target * 100)
    (hnm : ¬ (s.pos - 100 = 0 ∧ inMargin P.fo s.upT (taskMargin P) = true)) :
    (taskStep P s).rel = 0 ∧ (taskStep P s).tstate = 2 ∧ (taskStep P s).dir = 0 ∧ (taskStep P s).pos = s.pos ∧
    (taskStep P s).pend = 0 := by
  obtain ⟨hts, hdir, _, _, hlo, hhi⟩ := h
  rw [taskStep_moving true P s hts hdir ⟨hlo, hhi⟩ htg, if_pos ⟨hreach, hnm⟩]
  exact ⟨rfl, hts, rfl, rfl, rfl⟩

theorem task_not_reached_runs_up (P : RsP) (s : RsT) (h : MovU s) (hb : s.pos - 100 > s.target * 100) :
    taskStep P s = s := by
  obtain ⟨hts, hdir, _, _, hlo, hhi⟩ := h
  rw [taskStep_moving true P s hts hdir ⟨hlo, hhi⟩ (show s.target < 100 by omega), if_neg (fun hh => Nat.not_le.mpr hb hh.1)]

/-- one accounting callback of a running downward task: either the motor has been switched off at or beyond
    the target, or the task keeps running and Ψ has grown by at least 10⁴·dt -/
theorem mov_tick (P : RsP) (hfc : 10 ≤ P.fc)
    (hcap : P.fc / 10 + 1 + 10 * P.fc * (taskMargin P + 1) ≤ 600000000)
    (s : RsT) (dt : Nat) (h : Mov s) (htp : 0 < s.target) (htg100 : s.target ≤ 100) :
    let s' := rsTick P s dt
    s'.target = s.target ∧
    ((Stopped s' ∧ s'.pos - 100 ≥ s.target * 100 ∧
        (s'.pos - s.pos) * (P.fc * 1000) ≤ 10000 * s.downT + 10000 * dt + 10000 ∧ s.pos ≤ s'.pos) ∨
     (Mov s' ∧ CarryOk P s' ∧ psi P s + 10000 * dt ≤ psi P s' ∧ s.pos ≤ s'.pos)) :=
  mov_tickD false P ⟨hfc, hcap⟩ s dt h htp htg100

theorem mov_tick_up (P : RsP) (hfo : 10 ≤ P.fo)
    (hcap : P.fo / 10 + 1 + 10 * P.fo * (taskMargin P + 1) ≤ 600000000)
    (s : RsT) (dt : Nat) (h : MovU s) (htg : s.target < 100) :
    let s' := rsTick P s dt
    s'.target = s.target ∧
    ((Stopped s' ∧ s'.pos - 100 ≤ s.target * 100 ∧
        (s.pos - s'.pos) * (P.fo * 1000) ≤ 10000 * s.upT + 10000 * dt + 10000 ∧ s'.pos ≤ s.pos) ∨
     (MovU s' ∧ CarryOkU P s' ∧ psiU P s + 10000 * dt ≤ psiU P s' ∧ s'.pos ≤ s.pos)) := by
  have ⟨_, _, _, _, _, hhi⟩ := h
  obtain ⟨htarget, ⟨hst, hb, htrav, hgone⟩ | ⟨hmv, hok, hpsi, hgone⟩⟩ :=
    mov_tickD true P ⟨hfo, hcap⟩ s dt h htg (Nat.le_of_lt htg)
  · have ⟨_, _, _, hhi', _⟩ := hst
    obtain ⟨hle, e⟩ := C09.gone_up_sub hhi hhi' hgone
    exact ⟨htarget, Or.inl ⟨hst, hb, e ▸ htrav, hle⟩⟩
  · have ⟨_, _, _, _, _, hhi'⟩ := hmv
    exact ⟨htarget, Or.inr ⟨hmv, hok, hpsi, (C09.gone_up_sub hhi hhi' hgone).1⟩⟩

/-- after the stop the task finishes at the next callback and nothing moves any more -/
theorem task_finishes (P : RsP) (s : RsT) (dt : Nat) (h : Stopped s) :
    Stopped (rsTick P s dt) ∧ (rsTick P s dt).tstate = 0 ∧ (rsTick P s dt).pos = s.pos :=
  stopped_tick P s dt h

theorem stopped_run (P : RsP) : ∀ (dts : List Nat) (s : RsT), Stopped s →
    Stopped (rsRun P s dts) ∧ (rsRun P s dts).pos = s.pos ∧ (dts ≠ [] → (rsRun P s dts).tstate = 0) := by
  intro dts s h
  obtain ⟨hst, hpos, hfin⟩ := rsRun_timed P (fun _ n x => Stopped x ∧ x.pos = s.pos ∧ (0 < n → x.tstate = 0))
    (fun _ _ x dt ⟨hx, hp, _⟩ => by
      obtain ⟨hx', hfin, hpos⟩ := stopped_tick P x dt hx
      exact ⟨hx', hpos.trans hp, fun _ => hfin⟩)
    dts s ⟨h, rfl, fun h => absurd h (Nat.lt_irrefl 0)⟩
  exact ⟨hst, hpos, fun hne => hfin (List.length_pos_iff.mpr hne)⟩

/-- a running downward task over any sequence of accounting callbacks: it is either stopped at or beyond the
    target (never moved back), or still running with Ψ grown by at least 10⁴ × the elapsed time -/
theorem mov_run (P : RsP) (hfc : 10 ≤ P.fc)
    (hcap : P.fc / 10 + 1 + 10 * P.fc * (taskMargin P + 1) ≤ 600000000) (tg : Nat) (htp : 0 < tg) (htg100 : tg ≤ 100) :
    ∀ (dts : List Nat) (s : RsT), Mov s → s.target = tg →
      (Stopped (rsRun P s dts) ∧ (rsRun P s dts).pos - 100 ≥ tg * 100 ∧ s.pos ≤ (rsRun P s dts).pos) ∨
      (Mov (rsRun P s dts) ∧ CarryOk P (rsRun P s dts) ∧ (rsRun P s dts).target = tg ∧
        psi P s + 10000 * C09.sum dts ≤ psi P (rsRun P s dts) ∧ s.pos ≤ (rsRun P s dts).pos ∨
       (dts = [] ∧ Mov (rsRun P s dts))) := by
  intro dts s h htg
  subst htg
  obtain ⟨hgone, ⟨hst, hb⟩ | ⟨hmv, htarget, hpsi, hok⟩⟩ := mov_runD false P ⟨hfc, hcap⟩ dts s h htp htg100
  · exact Or.inl ⟨hst, hb, hgone⟩
  · by_cases hne : dts = []
    · exact Or.inr (Or.inr ⟨hne, hmv⟩)
    · exact Or.inr (Or.inl ⟨hmv, hok (List.length_pos_iff.mpr hne), htarget, hpsi, hgone⟩)

theorem mov_run_up (P : RsP) (hfo : 10 ≤ P.fo)
    (hcap : P.fo / 10 + 1 + 10 * P.fo * (taskMargin P + 1) ≤ 600000000) (tg : Nat) (htg100 : tg < 100) :
    ∀ (dts : List Nat) (s : RsT), MovU s → s.target = tg →
      (Stopped (rsRun P s dts) ∧ (rsRun P s dts).pos - 100 ≤ tg * 100 ∧ (rsRun P s dts).pos ≤ s.pos) ∨
      (MovU (rsRun P s dts) ∧ CarryOkU P (rsRun P s dts) ∧ (rsRun P s dts).target = tg ∧
        psiU P s + 10000 * C09.sum dts ≤ psiU P (rsRun P s dts) ∧ (rsRun P s dts).pos ≤ s.pos ∨
       (dts = [] ∧ MovU (rsRun P s dts))) := by
  intro dts s h htg
  subst htg
  have ⟨_, _, _, _, _, hhi⟩ := h
  obtain ⟨hgone, ⟨hst, hb⟩ | ⟨hmv, htarget, hpsi, hok⟩⟩ :=
    mov_runD true P ⟨hfo, hcap⟩ dts s h htg100 (Nat.le_of_lt htg100)
  · have ⟨_, _, _, hhi', _⟩ := hst
    exact Or.inl ⟨hst, hb, (C09.gone_up_sub hhi hhi' hgone).1⟩
  · by_cases hne : dts = []
    · exact Or.inr (Or.inr ⟨hne, hmv⟩)
    · have ⟨_, _, _, _, _, hhi'⟩ := hmv
      exact Or.inr (Or.inl ⟨hmv, hok (List.length_pos_iff.mpr hne), htarget, hpsi, (C09.gone_up_sub hhi hhi' hgone).1⟩)

/-- C10 (convergence, downward): a roller shutter executing a positioning task towards a target below its
    estimated position — for every sequence of accounting callbacks whose total duration reaches the travel to
    the end stop plus the task's end-stop margin (Ψ-cap), the motor has been switched off with the estimate at or
    beyond the target; it never moves back, and after one more callback the task is finished -/
theorem c10_task_converges_down (P : RsP) (hfc : 10 ≤ P.fc)
    (hcap : P.fc / 10 + 1 + 10 * P.fc * (taskMargin P + 1) ≤ 600000000) (s : RsT) (h : Mov s)
    (htp : 0 < s.target) (htg100 : s.target ≤ 100) (dts : List Nat) (hne : dts ≠ [])
    (hlong : 10100 * (P.fc * 1000) + P.fc * 1000 + 10000 + 100000 * P.fc * (taskMargin P + 1)
               ≤ psi P s + 10000 * C09.sum dts) :
    Stopped (rsRun P s dts) ∧ (rsRun P s dts).pos - 100 ≥ s.target * 100 ∧ s.pos ≤ (rsRun P s dts).pos :=
  convergesD false P ⟨hfc, hcap⟩ s h htp htg100 dts hne hlong

/-- C10 (convergence, upward): the mirror statement for a target above the estimate's complement — for every
    sequence of callbacks whose duration reaches the travel to the upper end stop plus the task's margin, the
    motor is off with the estimate at or above (numerically at or below) the target, and it never moved back -/
theorem c10_task_converges_up (P : RsP) (hfo : 10 ≤ P.fo)
    (hcap : P.fo / 10 + 1 + 10 * P.fo * (taskMargin P + 1) ≤ 600000000) (s : RsT) (h : MovU s)
    (htg100 : s.target < 100) (dts : List Nat) (hne : dts ≠ [])
    (hlong : 10000 * (P.fo * 1000) + P.fo * 1000 + 10000 + 100000 * P.fo * (taskMargin P + 1)
               ≤ psiU P s + 10000 * C09.sum dts) :
    Stopped (rsRun P s dts) ∧ (rsRun P s dts).pos - 100 ≤ s.target * 100 ∧ (rsRun P s dts).pos ≤ s.pos :=
  have ⟨_, _, _, _, _, hhi⟩ := h
  stopped_up hhi (convergesD true P ⟨hfo, hcap⟩ s h htg100 (Nat.le_of_lt htg100) dts hne hlong)

/-- the stop happens at the first callback at or beyond the target: the estimate passes the target by no more
    than the travel of the carried time plus that callback interval (+1 unit) -/
theorem c10_overshoot (P : RsP) (hfc : 10 ≤ P.fc)
    (hcap : P.fc / 10 + 1 + 10 * P.fc * (taskMargin P + 1) ≤ 600000000) (s : RsT) (dt : Nat) (h : Mov s)
    (htp : 0 < s.target) (htg100 : s.target ≤ 100) (hbefore : s.pos - 100 < s.target * 100)
    (hst : Stopped (rsTick P s dt)) :
    ((rsTick P s dt).pos - s.pos) * (P.fc * 1000) ≤ 10000 * s.downT + 10000 * dt + 10000 := by
  obtain ⟨_, ⟨_, _, htrav, _⟩ | ⟨hmv, _⟩⟩ := mov_tickD false P ⟨hfc, hcap⟩ s dt h htp htg100
  · exact htrav
  · exact (not_stopped_moving hst hmv).elim

/-- the upward stop also happens at the first callback at or above the target: the estimate passes the target by
    no more than the travel of the carried time plus that callback interval (+1 unit) -/
theorem c10_overshoot_up (P : RsP) (hfo : 10 ≤ P.fo)
    (hcap : P.fo / 10 + 1 + 10 * P.fo * (taskMargin P + 1) ≤ 600000000) (s : RsT) (dt : Nat) (h : MovU s)
    (htg100 : s.target < 100) (hbefore : s.pos - 100 > s.target * 100)
    (hst : Stopped (rsTick P s dt)) :
    (s.pos - (rsTick P s dt).pos) * (P.fo * 1000) ≤ 10000 * s.upT + 10000 * dt + 10000 := by
  obtain ⟨_, ⟨hst', _, htrav, hgone⟩ | ⟨hmv, _⟩⟩ := mov_tickD true P ⟨hfo, hcap⟩ s dt h htg100 (Nat.le_of_lt htg100)
  · have ⟨_, _, _, _, _, hhi⟩ := h
    have ⟨_, _, _, hhi', _⟩ := hst'
    exact (C09.gone_up_sub hhi hhi' hgone).2 ▸ htrav
  · exact (not_stopped_moving hst hmv).elim

/-- from rest: the first callback after a task was added towards a target below the estimate starts the motor
    downwards (unless a zero margin forbids driving a shutter that already reports 100 %) -/
theorem task_start_down (P : RsP) (s : RsT) (dt : Nat)
    (h0 : s.tstate = 1 ∧ s.rel = 0 ∧ s.pend = 0 ∧ 100 ≤ s.pos ∧ s.pos ≤ 10100 ∧ s.sinceStop ≥ startGate + s.lag)
    (hb : s.pos - 100 < s.target * 100) (hg : ¬ (P.margin = 0 ∧ reportedPos s.pos = 100)) :
    Mov (rsTick P s dt) ∧ (rsTick P s dt).pos = s.pos ∧ (rsTick P s dt).downT = 0 ∧
    (rsTick P s dt).target = s.target :=
  task_startD false P s dt h0 hb hg

/-- from rest, upward: the first callback after a task was added towards a target above the estimate starts the
    motor upwards (unless a zero margin forbids driving a shutter that already reports 0 %) -/
theorem task_start_up (P : RsP) (s : RsT) (dt : Nat)
    (h0 : s.tstate = 1 ∧ s.rel = 0 ∧ s.pend = 0 ∧ 100 ≤ s.pos ∧ s.pos ≤ 10100 ∧ s.sinceStop ≥ startGate + s.lag)
    (hb : s.pos - 100 > s.target * 100) (hg : ¬ (P.margin = 0 ∧ reportedPos s.pos = 0)) :
    MovU (rsTick P s dt) ∧ (rsTick P s dt).pos = s.pos ∧ (rsTick P s dt).upT = 0 ∧
    (rsTick P s dt).target = s.target :=
  task_startD true P s dt h0 hb hg

/-- **C10 (from rest to the target, downward)** the two halves joined: a calibrated shutter at rest (start gate passed) with an
    active task towards a target below its estimate — the first callback starts the motor, and for every further sequence of
    callbacks whose total duration reaches the travel to the end stop plus the task's margin the motor is off again with the
    estimate at or beyond the target, never having moved back -/
theorem c10_from_rest_converges_down (P : RsP) (hfc : 10 ≤ P.fc)
    (hcap : P.fc / 10 + 1 + 10 * P.fc * (taskMargin P + 1) ≤ 600000000) (s : RsT) (dt : Nat) (dts : List Nat)
    (h0 : s.tstate = 1 ∧ s.rel = 0 ∧ s.pend = 0 ∧ 100 ≤ s.pos ∧ s.pos ≤ 10100 ∧ s.sinceStop ≥ startGate + s.lag)
    (hb : s.pos - 100 < s.target * 100) (htg100 : s.target ≤ 100)
    (hg : ¬ (P.margin = 0 ∧ reportedPos s.pos = 100)) (hne : dts ≠ [])
    (hlong : 10100 * (P.fc * 1000) + P.fc * 1000 + 10000 + 100000 * P.fc * (taskMargin P + 1)
               ≤ s.pos * (P.fc * 1000) + 10000 * C09.sum dts) :
    Stopped (rsRun P s (dt :: dts)) ∧ (rsRun P s (dt :: dts)).pos - 100 ≥ s.target * 100 ∧
    s.pos ≤ (rsRun P s (dt :: dts)).pos :=
  from_restD false P ⟨hfc, hcap⟩ s _ dts (task_start_down P s dt h0 hb hg) (show 0 < s.target by omega) htg100
    hne hlong

/-- **C10 (from rest to the target, upward)** the mirror statement -/
theorem c10_from_rest_converges_up (P : RsP) (hfo : 10 ≤ P.fo)
    (hcap : P.fo / 10 + 1 + 10 * P.fo * (taskMargin P + 1) ≤ 600000000) (s : RsT) (dt : Nat) (dts : List Nat)
    (h0 : s.tstate = 1 ∧ s.rel = 0 ∧ s.pend = 0 ∧ 100 ≤ s.pos ∧ s.pos ≤ 10100 ∧ s.sinceStop ≥ startGate + s.lag)
    (hb : s.pos - 100 > s.target * 100)
    (hg : ¬ (P.margin = 0 ∧ reportedPos s.pos = 0)) (hne : dts ≠ [])
    (hlong : 10000 * (P.fo * 1000) + P.fo * 1000 + 10000 + 100000 * P.fo * (taskMargin P + 1)
               ≤ (10100 - s.pos) * (P.fo * 1000) + 10000 * C09.sum dts) :
    Stopped (rsRun P s (dt :: dts)) ∧ (rsRun P s (dt :: dts)).pos - 100 ≤ s.target * 100 ∧
    (rsRun P s (dt :: dts)).pos ≤ s.pos := by
  have ⟨_, _, _, _, hhi, _⟩ := h0
  have htg : s.target < 100 := by omega
  exact stopped_up hhi
    (from_restD true P ⟨hfo, hcap⟩ s _ dts (task_start_up P s dt h0 hb hg) htg (Nat.le_of_lt htg) hne hlong)

/-- non-vacuity: 20 s closing time, default margin; from 20 % a task to 57 % driven by 0.5 s callbacks stops at
    the first callback at or beyond 57 % (57.5 %) and the motor is off -/
example :
    (rsRun { fo := 20000, fc := 20000, margin := 110, inMove := false } (addTask { pos := 2100 } 57)
      [10000, 500000, 500000, 500000, 500000, 500000, 500000, 500000, 500000, 500000, 500000, 500000, 500000, 500000, 500000,
       500000, 10000, 10000]).pos = 5850 ∧
    (rsRun { fo := 20000, fc := 20000, margin := 110, inMove := false } (addTask { pos := 2100 } 57)
      [10000, 500000, 500000, 500000, 500000, 500000, 500000, 500000, 500000, 500000, 500000, 500000, 500000, 500000, 500000,
       500000, 10000, 10000]).rel = 0 := by
  decide +kernel

/-- non-vacuity, upward: 20 s opening time, default margin; from 80 % a task to 43 % driven by 0.5 s callbacks stops
    at the first callback at or above 43 % (42.5 %) and the motor is off -/
example :
    (rsRun { fo := 20000, fc := 20000, margin := 110, inMove := false } (addTask { pos := 8100 } 43)
      [10000, 500000, 500000, 500000, 500000, 500000, 500000, 500000, 500000, 500000, 500000, 500000, 500000, 500000, 500000,
       500000, 10000, 10000]).pos = 4350 ∧
    (rsRun { fo := 20000, fc := 20000, margin := 110, inMove := false } (addTask { pos := 8100 } 43)
      [10000, 500000, 500000, 500000, 500000, 500000, 500000, 500000, 500000, 500000, 500000, 500000, 500000, 500000, 500000,
       500000, 10000, 10000]).rel = 0 := by
  decide +kernel

/-- the premises of the from-rest theorems are met by a fresh request on a calibrated shutter at rest: `addTask` on a state
    with both outputs off and a reported position different from the request yields exactly `tstate = 1`, the new
    target and untouched outputs -/
theorem c10_addTask_from_rest (s : RsT) (g : Nat) (hrel : s.rel = 0)
    (hne : reportedPos s.pos ≠ (g : Int)) :
    (addTask s g).tstate = 1 ∧ (addTask s g).target = g ∧ (addTask s g).rel = 0 ∧ (addTask s g).pos = s.pos ∧
    (addTask s g).pend = s.pend ∧ (addTask s g).sinceStop = s.sinceStop ∧ (addTask s g).lag = s.lag := by
  unfold addTask
  rw [if_neg (by intro h; exact hne h.1)]
  exact ⟨rfl, rfl, hrel, rfl, rfl, rfl, rfl⟩

/-- **C10 (the newest request wins)** a request made while the shutter is on its way somewhere else (a task running or an
    output energised) always becomes the task - also when the reported position happens to equal the requested one at
    that moment (before the repair in /repo, commit 11cbb54, such a request was ignored and the shutter ran on to the old target) -/
theorem c10_request_replaces_running (s : RsT) (g : Nat) (h : s.tstate ≠ 0 ∨ s.rel ≠ 0) :
    (addTask s g).tstate = 1 ∧ (addTask s g).target = g ∧ (addTask s g).dir = 0 := by
  unfold addTask
  have : ¬ (reportedPos s.pos = (g : Int) ∧ s.tstate = 0 ∧ s.rel = 0) := by
    intro hh; rcases h with h | h
    · exact h hh.2.1
    · exact h hh.2.2
  rw [if_neg this]
  exact ⟨rfl, rfl, rfl⟩

/-- ... and if the stored position is exactly the requested one, the next callback stops the motor there -/
theorem c10_request_at_current_position_stops (P : RsP) (s : RsT) (g : Nat) (h : s.tstate ≠ 0 ∨ s.rel ≠ 0)
    (hk : known s.pos = true) (heq : s.pos - 100 = g * 100) :
    (taskStep P (addTask s g)).rel = 0 ∧ (taskStep P (addTask s g)).tstate = 0 := by
  obtain ⟨a1, a2, a3⟩ := c10_request_replaces_running s g h
  have hpos : (addTask s g).pos = s.pos := by
    unfold addTask; split <;> rfl
  unfold taskStep
  rw [hpos, hk]
  -- raw = tp: the first stage only sets task state 2; with direction 0 (`a3`) the next one ends the task through `relOff`
  simp only [a1, a2, heq]
  simp [relOff, a3]

/-- the two timing constants of the task models are those of the source tree (regenerated): a start is postponed while
    `RS_START_DELAY - elapsed_ms + 1` exceeds the 100 ms threshold; one relay_hi takes 10 µs + RELAY_DOUBLE_TRY + 10 µs -/
theorem c10_gate_consts :
    startGate = (Gen.rsParams.startDelay - Gen.rsParams.thresh + 1) * 1000 ∧
    relayHiUs = Gen.rsParams.preUs + Gen.rsParams.dblUs + Gen.rsParams.postUs := by decide

/-- a direction requested on a shutter at rest before the start gate has passed is not dropped: it is parked for the delayed
    trigger with the outputs still off ... -/
theorem c10_request_parked (P : RsP) (s : RsT) (w : Nat) (hrel : s.rel = 0)
    (hgate : s.sinceStop < startGate + s.lag) :
    (relReq P s w).pend = w ∧ (relReq P s w).rel = 0 := by
  rw [relReq_rest P s w hrel, if_pos hgate]
  exact ⟨rfl, hrel⟩

/-- ... and when the trigger fires, the parked direction is energised unless the zero-margin guard forbids it (then the
    outputs stay as they were); nothing stays pending, and a trigger with nothing parked changes nothing -/
theorem c10_trigger_executes (P : RsP) (s : RsT) :
    (fireTrig P s).pend = 0 ∧
    (s.pend = 0 → fireTrig P s = s) ∧
    (s.pend ≠ 0 → ¬ (P.margin = 0 ∧ ((s.pend = 2 ∧ reportedPos s.pos = 0) ∨ (s.pend = 1 ∧ reportedPos s.pos = 100))) →
      (fireTrig P s).rel = s.pend) ∧
    (s.pend ≠ 0 → (P.margin = 0 ∧ ((s.pend = 2 ∧ reportedPos s.pos = 0) ∨ (s.pend = 1 ∧ reportedPos s.pos = 100))) →
      (fireTrig P s).rel = s.rel) := by
  by_cases hp : s.pend = 0
  · have e : fireTrig P s = s := by unfold fireTrig; rw [if_pos hp]
    rw [e]
    exact ⟨hp, fun _ => rfl, fun h => absurd hp h, fun h => absurd hp h⟩
  · rw [fireTrig_some P s hp]
    exact ⟨rfl, fun h => absurd h hp, fun _ hg => if_neg hg, fun _ hg => if_pos hg⟩

/-- request, then trigger: a direction asked for at rest inside the start gate ends up energised once the trigger fires -/
theorem c10_parked_then_fired (P : RsP) (s : RsT) (w : Nat) (hw : w ≠ 0) (hrel : s.rel = 0)
    (hgate : s.sinceStop < startGate + s.lag)
    (hg : ¬ (P.margin = 0 ∧ ((w = 2 ∧ reportedPos s.pos = 0) ∨ (w = 1 ∧ reportedPos s.pos = 100)))) :
    (fireTrig P (relReq P s w)).rel = w ∧ (fireTrig P (relReq P s w)).pend = 0 := by
  rw [relReq_rest P s w hrel, if_pos hgate, fireTrig_some P _ hw]
  exact ⟨if_neg hg, rfl⟩

/-- from rest inside the start gate (the shutter stopped less than the start delay ago): the first callback parks the downward
    request for the delayed trigger with the outputs still off, and the trigger's firing starts the motor - the task is then in
    the `Mov` regime of the convergence theorem with nothing carried -/
theorem task_start_down_parked (P : RsP) (s : RsT) (dt : Nat)
    (h0 : s.tstate = 1 ∧ s.rel = 0 ∧ s.pend = 0 ∧ 100 ≤ s.pos ∧ s.pos ≤ 10100 ∧ s.sinceStop + dt < startGate + s.lag)
    (hb : s.pos - 100 < s.target * 100) (hg : ¬ (P.margin = 0 ∧ reportedPos s.pos = 100)) :
    (rsTick P s dt).rel = 0 ∧ (rsTick P s dt).pend = 1 ∧
    Mov (fireTrig P (rsTick P s dt)) ∧ (fireTrig P (rsTick P s dt)).pos = s.pos ∧
    (fireTrig P (rsTick P s dt)).downT = 0 ∧ (fireTrig P (rsTick P s dt)).target = s.target :=
  task_start_parkedD false P s dt h0 hb hg

/-- from rest inside the start gate (the shutter stopped less than the start delay ago): the first callback parks the upward
    request for the delayed trigger with the outputs still off, and the trigger's firing starts the motor - the task is then in
    the `MovU` regime of the convergence theorem with nothing carried -/
theorem task_start_up_parked (P : RsP) (s : RsT) (dt : Nat)
    (h0 : s.tstate = 1 ∧ s.rel = 0 ∧ s.pend = 0 ∧ 100 ≤ s.pos ∧ s.pos ≤ 10100 ∧ s.sinceStop + dt < startGate + s.lag)
    (hb : s.pos - 100 > s.target * 100) (hg : ¬ (P.margin = 0 ∧ reportedPos s.pos = 0)) :
    (rsTick P s dt).rel = 0 ∧ (rsTick P s dt).pend = 2 ∧
    MovU (fireTrig P (rsTick P s dt)) ∧ (fireTrig P (rsTick P s dt)).pos = s.pos ∧
    (fireTrig P (rsTick P s dt)).upT = 0 ∧ (fireTrig P (rsTick P s dt)).target = s.target :=
  task_start_parkedD true P s dt h0 hb hg

/-- **C10 (from rest inside the start gate to the target)** the request parked by the first callback and released by the
    delayed trigger converges like any other: for every later callback sequence long enough the motor is off again at or
    beyond the target -/
theorem c10_from_rest_parked_converges_down (P : RsP) (hfc : 10 ≤ P.fc)
    (hcap : P.fc / 10 + 1 + 10 * P.fc * (taskMargin P + 1) ≤ 600000000) (s : RsT) (dt : Nat) (dts : List Nat)
    (h0 : s.tstate = 1 ∧ s.rel = 0 ∧ s.pend = 0 ∧ 100 ≤ s.pos ∧ s.pos ≤ 10100 ∧ s.sinceStop + dt < startGate + s.lag)
    (hb : s.pos - 100 < s.target * 100) (htg100 : s.target ≤ 100)
    (hg : ¬ (P.margin = 0 ∧ reportedPos s.pos = 100)) (hne : dts ≠ [])
    (hlong : 10100 * (P.fc * 1000) + P.fc * 1000 + 10000 + 100000 * P.fc * (taskMargin P + 1)
               ≤ s.pos * (P.fc * 1000) + 10000 * C09.sum dts) :
    Stopped (rsRun P (fireTrig P (rsTick P s dt)) dts) ∧
    (rsRun P (fireTrig P (rsTick P s dt)) dts).pos - 100 ≥ s.target * 100 ∧
    s.pos ≤ (rsRun P (fireTrig P (rsTick P s dt)) dts).pos :=
  have ⟨_, _, started⟩ := task_start_down_parked P s dt h0 hb hg
  from_restD false P ⟨hfc, hcap⟩ s _ dts started (show 0 < s.target by omega) htg100 hne hlong

/-- the upward mirror of `c10_from_rest_parked_converges_down` -/
theorem c10_from_rest_parked_converges_up (P : RsP) (hfo : 10 ≤ P.fo)
    (hcap : P.fo / 10 + 1 + 10 * P.fo * (taskMargin P + 1) ≤ 600000000) (s : RsT) (dt : Nat) (dts : List Nat)
    (h0 : s.tstate = 1 ∧ s.rel = 0 ∧ s.pend = 0 ∧ 100 ≤ s.pos ∧ s.pos ≤ 10100 ∧ s.sinceStop + dt < startGate + s.lag)
    (hb : s.pos - 100 > s.target * 100)
    (hg : ¬ (P.margin = 0 ∧ reportedPos s.pos = 0)) (hne : dts ≠ [])
    (hlong : 10000 * (P.fo * 1000) + P.fo * 1000 + 10000 + 100000 * P.fo * (taskMargin P + 1)
               ≤ (10100 - s.pos) * (P.fo * 1000) + 10000 * C09.sum dts) :
    Stopped (rsRun P (fireTrig P (rsTick P s dt)) dts) ∧
    (rsRun P (fireTrig P (rsTick P s dt)) dts).pos - 100 ≤ s.target * 100 ∧
    (rsRun P (fireTrig P (rsTick P s dt)) dts).pos ≤ s.pos := by
  have ⟨_, _, _, _, hhi, _⟩ := h0
  have htg : s.target < 100 := by omega
  have ⟨_, _, started⟩ := task_start_up_parked P s dt h0 hb hg
  exact stopped_up hhi (from_restD true P ⟨hfo, hcap⟩ s _ dts started htg (Nat.le_of_lt htg) hne hlong)

/-- facade blind: the same parking rule ... -/
theorem c10_fb_request_parked (P : FbP) (s : FbT) (w : Nat) (hrel : s.rel = 0)
    (hgate : s.sinceStop < startGate + s.lag) :
    (fbRelReq P s w).pend = w ∧ (fbRelReq P s w).rel = 0 ∧ (fbRelReq P s w).pos = s.pos ∧ (fbRelReq P s w).tilt = s.tilt := by
  unfold fbRelReq
  simp [hrel, hgate]

/-- ... and the same firing rule with the blind's guard (at an end stop with zero margin only a tilt change may start the motor) -/
theorem c10_fb_trigger_executes (P : FbP) (s : FbT) :
    (fbFireTrig P s).pend = 0 ∧
    (s.pend = 0 → fbFireTrig P s = s) ∧
    (s.pend ≠ 0 → (fbFireTrig P s).rel = fbGuardOn P { s with pend := 0 } s.pend) ∧
    (P.margin ≠ 0 → s.pend ≠ 0 → (fbFireTrig P s).rel = s.pend) := by
  unfold fbFireTrig
  by_cases hp : s.pend = 0
  · simp [hp]
  · refine ⟨by simp [hp], fun h => absurd h hp, by intro _; simp [hp], ?_⟩
    intro hm _
    simp only [if_neg hp, fbGuardOn]
    rw [if_neg (by intro h; exact hm h.1)]

/-- nothing energised, nothing pending, no task -/
def Idle (s : RsT) : Prop := s.rel = 0 ∧ s.pend = 0 ∧ s.tstate = 0
/-- `fun s => Idle s.core` -/
def FbIdle (s : FbT) : Prop := s.rel = 0 ∧ s.pend = 0 ∧ s.tstate = 0

theorem idle_tick (P : RsP) (s : RsT) (dt : Nat) (h : Idle s) :
    Idle (rsTick P s dt) ∧ (rsTick P s dt).pos = s.pos := by
  have ⟨hrel, hpend, hts⟩ := h
  rw [rsTick_rest P s dt hrel hpend hts]
  exact ⟨h, rfl⟩

/-- **C10 (at rest nothing starts the motor)** a shutter with no task, no pending trigger and both outputs off - calibrated or
    not - keeps its outputs off and its estimate for every sequence of accounting callbacks -/
theorem c10_idle_run (P : RsP) : ∀ (dts : List Nat) (s : RsT), Idle s →
    Idle (rsRun P s dts) ∧ (rsRun P s dts).pos = s.pos := by
  intro dts s h
  refine rsRun_timed P (fun _ _ x => Idle x ∧ x.pos = s.pos) (fun _ _ x dt ⟨hx, hp⟩ => ?_) dts s ⟨h, rfl⟩
  obtain ⟨hx', hpos⟩ := idle_tick P x dt hx
  exact ⟨hx', hpos.trans hp⟩

theorem fb_idle_tick (P : FbP) (s : FbT) (dt : Nat) (h : FbIdle s) :
    FbIdle (fbTick P s dt) ∧ (fbTick P s dt).pos = s.pos ∧ (fbTick P s dt).tilt = s.tilt := by
  have ⟨hrel, _, hts⟩ := h
  obtain ⟨e, htilt⟩ := core_tick false P s dt hts (Or.inl hrel)
  obtain ⟨hidle, hpos⟩ := e ▸ idle_tick P.core s.core dt h
  exact ⟨hidle, hpos, htilt⟩

/-- the same for a facade blind: position and tilt estimates untouched, outputs off, for every callback sequence -/
theorem c10_fb_idle_run (P : FbP) : ∀ (dts : List Nat) (s : FbT), FbIdle s →
    FbIdle (fbRun P s dts) ∧ (fbRun P s dts).pos = s.pos ∧ (fbRun P s dts).tilt = s.tilt := by
  intro dts s h
  refine fbRun_timed P (fun _ _ x => FbIdle x ∧ x.pos = s.pos ∧ x.tilt = s.tilt)
    (fun _ _ x dt ⟨hx, hp, ht⟩ => ?_) dts s ⟨h, rfl, rfl⟩
  obtain ⟨hx', hpos, htilt⟩ := fb_idle_tick P x dt hx
  exact ⟨hx', hpos.trans hp, htilt.trans ht⟩

/-- **C10 (a stop command ends everything)** whatever the shutter was doing - a task in any stage, an output energised, a
    request waiting for the delayed trigger - the stop command leaves both outputs off, no pending trigger and no task -/
theorem c10_stop_cmd_off (P : RsP) (s : RsT) :
    (moveCmd P s 0).rel = 0 ∧ (moveCmd P s 0).pend = 0 ∧ (moveCmd P s 0).tstate = 0 ∧ (moveCmd P s 0).pos = s.pos :=
  ⟨rfl, rfl, rfl, rfl⟩

/-- the stop command reaches that state from anywhere, so after it the outputs stay off - also on a shutter that is not
    calibrated (where `c10_stop_cmd_stays_off`'s premise fails) -/
theorem c10_stop_cmd_stays_off_any (P : RsP) (s : RsT) (dts : List Nat) :
    (rsRun P (moveCmd P s 0) dts).rel = 0 ∧ (rsRun P (moveCmd P s 0) dts).pend = 0 ∧
    (rsRun P (moveCmd P s 0) dts).tstate = 0 ∧ (rsRun P (moveCmd P s 0) dts).pos = s.pos := by
  obtain ⟨⟨hrel, hpend, hts⟩, hpos⟩ := c10_idle_run P dts (moveCmd P s 0) ⟨rfl, rfl, rfl⟩
  exact ⟨hrel, hpend, hts, hpos⟩

/-- ... and it stays that way: on a calibrated shutter, after a stop command every sequence of accounting callbacks leaves
    the outputs off, the task state idle and the position estimate untouched (the motor is not restarted by a stale task) -/
theorem c10_stop_cmd_stays_off (P : RsP) (s : RsT) (hk : 100 ≤ s.pos ∧ s.pos ≤ 10100) (dts : List Nat) :
    (rsRun P (moveCmd P s 0) dts).rel = 0 ∧ (rsRun P (moveCmd P s 0) dts).pend = 0 ∧
    (rsRun P (moveCmd P s 0) dts).tstate = 0 ∧ (rsRun P (moveCmd P s 0) dts).pos = s.pos :=
  c10_stop_cmd_stays_off_any P s dts

/-- **C10 (a stop command ends everything, facade blind)** from any state of a blind (task in any of its stages, tilting, a
    request waiting for the trigger) the stop command leaves the outputs off, and every callback sequence keeps them off -/
theorem c10_fb_stop_cmd_stays_off (P : FbP) (s : FbT) (dts : List Nat) :
    (fbRun P (fbMoveCmd P s 0) dts).rel = 0 ∧ (fbRun P (fbMoveCmd P s 0) dts).pend = 0 ∧
    (fbRun P (fbMoveCmd P s 0) dts).tstate = 0 ∧ (fbRun P (fbMoveCmd P s 0) dts).pos = s.pos ∧
    (fbRun P (fbMoveCmd P s 0) dts).tilt = s.tilt := by
  obtain ⟨⟨hrel, hpend, hts⟩, hpos, htilt⟩ := c10_fb_idle_run P dts (fbMoveCmd P s 0) ⟨rfl, rfl, rfl⟩
  exact ⟨hrel, hpend, hts, hpos, htilt⟩

/-- a plain move command (up or down) cancels the running task: what follows is governed by the plain-move rules (end-stop
    margin, 10-minute limit), not by a stale target -/
theorem c10_move_cmd_cancels_task (P : RsP) (s : RsT) (w : Nat) :
    (moveCmd P s w).tstate = 0 ∧ (moveCmd P s w).target = 0 ∧ (moveCmd P s w).dir = 0 := by
  unfold moveCmd
  split
  · exact ⟨rfl, rfl, rfl⟩
  · obtain ⟨fts, fdir, ftarget⟩ := relReq_frame P { s with tstate := 0, target := 0, dir := 0 } w
    exact ⟨fts, ftarget, fdir⟩

/-- non-vacuity: a stop in the middle of a running task -/
example : (rsRun { fo := 20000, fc := 20000, margin := 110, inMove := false }
      (moveCmd { fo := 20000, fc := 20000, margin := 110, inMove := false }
        { pos := 4000, tstate := 2, dir := 1, rel := 1, target := 80, downT := 300000 } 0) [10000, 500000, 500000]).rel = 0 := by
  decide

/-- a plain move command cancels a blind's task (position and tilt targets) -/
theorem c10_fb_move_cmd_cancels_task (P : FbP) (s : FbT) (w : Nat) :
    (fbMoveCmd P s w).tstate = 0 ∧ (fbMoveCmd P s w).target = 0 ∧ (fbMoveCmd P s w).ttarget = 0 ∧ (fbMoveCmd P s w).dir = 0 := by
  unfold fbMoveCmd
  split
  · exact ⟨rfl, rfl, rfl, rfl⟩
  · obtain ⟨fts, fdir, ftarget, fttarget⟩ := fbRelReq_frame P { s with tstate := 0, target := 0, ttarget := 0, dir := 0 } w
    exact ⟨fts, ftarget, fttarget, fdir⟩

/-- the accounting callback keeps a known position inside 0..100 % and moves it only in the direction of travel -/
theorem c10_fb_position_range (P : FbP) (s : FbT) (dt : Nat) (hk : 100 ≤ s.pos ∧ s.pos ≤ 10100) :
    100 ≤ (fbAccount P s dt).pos ∧ (fbAccount P s dt).pos ≤ 10100 ∧
    (s.rel = 2 → (fbAccount P s dt).pos ≤ s.pos) ∧ (s.rel = 1 → s.pos ≤ (fbAccount P s dt).pos) := by
  have hkn := known_of_range s.pos hk
  unfold fbAccount
  by_cases h2 : s.rel = 2
  · rw [if_pos h2]
    simp only [fbCalibrate, hkn]
    obtain ⟨lo, hi, hup, _⟩ := C09.c09_pos_range_mono (P.mv true) { pos := s.pos, tilt := s.tilt, time := s.upT + dt } hk
    exact ⟨lo, hi, fun _ => hup rfl, fun h => by omega⟩
  · rw [if_neg h2]
    by_cases h1 : s.rel = 1
    · rw [if_pos h1]
      simp only [fbCalibrate, hkn]
      obtain ⟨lo, hi, _, hdown⟩ := C09.c09_pos_range_mono (P.mv false) { pos := s.pos, tilt := s.tilt, time := s.downT + dt } hk
      exact ⟨lo, hi, fun h => by omega, fun _ => hdown rfl⟩
    · rw [if_neg h1]
      exact ⟨hk.1, hk.2, fun h => absurd h h2, fun h => absurd h h1⟩

/-- **C10 (blinds: the newest request wins)** a request with a position or a tilt made while the blind is on its way
    always becomes the task -/
theorem c10_fb_request_replaces_running (P : FbP) (s : FbT) (g gt : Int) (h : s.tstate ≠ 0 ∨ s.rel ≠ 0)
    (hreq : ¬ ((if g > 100 then 100 else g) = -1 ∧ (if gt > 100 then 100 else gt) = -1)) :
    (fbAddTask P s g gt).tstate = 1 ∧ (fbAddTask P s g gt).dir = 0 := by
  unfold fbAddTask
  have hidle : ¬ (s.tstate = 0 ∧ s.rel = 0) := by
    intro hh; rcases h with h | h
    · exact h hh.1
    · exact h hh.2
  rw [if_neg (by intro hh; rcases hh.2 with h1 | h1; exact hreq h1; exact hidle h1)]
  exact ⟨rfl, rfl⟩

theorem fbRelOff_frame (s : FbT) :
    (fbRelOff s).tstate = s.tstate ∧ (fbRelOff s).dir = s.dir ∧ (fbRelOff s).rel = 0 ∧ (fbRelOff s).pend = 0 :=
  ⟨rfl, rfl, rfl, rfl⟩

/-- **C10 (blinds: the tilt phase ends at the target)** in the tilt phase, once the stored tilt has reached the requested one
    in the direction of travel, the callback switches both outputs off and the task is over -/
theorem c10_fb_tilt_reached_stops (P : FbP) (s : FbT) (hk : known s.pos = true) (h3 : s.tstate = 3)
    (hreach : (s.dir = 2 ∧ fbRawTilt s ≤ s.ttarget * 100) ∨ (s.dir = 1 ∧ fbRawTilt s ≥ s.ttarget * 100)) :
    (fbTaskStep P s).rel = 0 ∧ (fbTaskStep P s).tstate = 0 ∧ (fbTaskStep P s).pend = 0 := by
  have h : ∀ k, k ≠ 3 → s.tstate ≠ k := fun k hk h => hk (h ▸ h3)
  obtain ⟨a, du, dd, e⟩ := fbTaskStep_known P s (h 0 (by decide)) hk
  rw [e, fbS1_skip P s _ _ (h 1 (by decide)), fbS2_skip P s _ _ (h 2 (by decide)), fbS3_skip P s _ _ _ _ _ (h 2 (by decide))]
  unfold fbS4
  rw [if_pos ⟨h3, hreach⟩]
  exact ⟨rfl, rfl, rfl⟩

theorem fb_tilt_phase_started (P : FbP) (r : FbT) {raw rt tp du dd tt : Int} (h3 : r.tstate = 3)
    (hd : (r.dir = 2 ∧ rt > tt) ∨ (r.dir = 1 ∧ rt < tt)) :
    fbS4 (fbS3 P r raw rt tp du dd) rt tt = r := by
  rw [fbS3_skip P r _ _ _ _ _ (by rw [h3]; decide)]
  unfold fbS4
  rw [if_neg (by omega)]

/-- **C10 (blinds: from the position phase to the tilt phase)** when the position phase is over (direction none) the next
    callback either starts the tilt phase towards the requested tilt or, if nothing is left to do, ends the task with
    both outputs off -/
theorem c10_fb_position_phase_hands_over (P : FbP) (s : FbT) (hk : known s.pos = true) (h2 : s.tstate = 2) (hd : s.dir = 0) :
    ((fbTaskStep P s).tstate = 3 ∧ (fbTaskStep P s).dir ≠ 0) ∨
    ((fbTaskStep P s).tstate = 0 ∧ (fbTaskStep P s).rel = 0) := by
  obtain ⟨a, du, dd, e⟩ := fbTaskStep_known P s (by rw [h2]; decide) hk
  rw [e, fbS1_skip P s _ _ (by rw [h2]; decide)]
  unfold fbS2
  rw [if_pos ⟨h2, hd⟩]
  by_cases ha : fbRawTilt s > s.ttarget * 100 ∧ s.ttarget * 100 ≠ -100
  · obtain ⟨fts, fdir, _⟩ := fbRelReq_frame P { s with tstate := 3, dir := 2 } 2
    rw [if_pos ha, fb_tilt_phase_started P _ fts (Or.inl ⟨fdir, ha.1⟩)]
    exact Or.inl ⟨fts, fun h => absurd (fdir.symm.trans h) (show (2 : Nat) ≠ 0 by decide)⟩
  · rw [if_neg ha]
    by_cases hb : fbRawTilt s < s.ttarget * 100 ∧ s.ttarget * 100 ≠ -100
    · obtain ⟨fts, fdir, _⟩ := fbRelReq_frame P { s with tstate := 3, dir := 1 } 1
      rw [if_pos hb, fb_tilt_phase_started P _ fts (Or.inr ⟨fdir, hb.1⟩)]
      exact Or.inl ⟨fts, fun h => absurd (fdir.symm.trans h) (show (1 : Nat) ≠ 0 by decide)⟩
    · rw [if_neg hb, fbS3_skip P _ _ _ _ _ _ (show (0 : Nat) ≠ 2 by decide), fbS4_skip _ _ _ (show (0 : Nat) ≠ 3 by decide)]
      exact Or.inr ⟨rfl, rfl⟩

/-- non-vacuity: mode 1 (position kept while tilting), 20 s travel, 2 s tilting, from 50 % / 0 %: a request for 50 % / 60 % runs
    the tilt phase only and ends with both outputs off at tilt 60 % -/
example :
    let P : FbP := { fo := 20000, fc := 20000, margin := 110, inMove := false, ttype := 1, tiltMs := 2000 }
    let s := fbRun P (fbAddTask P { pos := 5100, tilt := 100 } 50 60) (List.replicate 140 10000)
    s.rel = 0 ∧ s.tstate = 0 ∧ s.tilt = 6100 ∧ s.pos = 5100 := by
  decide +kernel

/-- the run time the step looks at: steps 1 and 3 run up, step 2 runs down -/
def acTime (s : AcSt) (upT downT : Nat) : Nat := if s.step = 2 then downT else upT

/-- the 14 cases of `acStep` as five regimes -/
@[elab_as_elim]
theorem acStep_regimes (P : AcParams) (s : AcSt) (upT downT : Nat) (mv : Bool) {motive : AcSt × AcAct × Bool → Prop}
    (wait : ¬ (1 ≤ s.step ∧ s.step ≤ 3) ∨ (upT < P.filterMs * 1000 ∧ downT < P.filterMs * 1000) ∨
      (mv = true ∧ acTime s upT downT ≤ P.maxMs * 1000) → motive (s, .none, false))
    (fail : (mv = true ∧ P.maxMs * 1000 < acTime s upT downT) ∨
      (mv = false ∧ s.step ≠ 1 ∧ acTime s upT downT < P.minMs * 1000) → motive (s.failNow, .failed, false))
    (step2 : s.step = 1 → mv = false → motive ({ s with step := 2 }, .relay 1, false))
    (step3 : s.step = 2 → mv = false → P.minMs * 1000 ≤ downT →
      motive ({ s with step := 3, closing := downT / 1000 }, .relay 2, true))
    (finish : s.step = 3 → mv = false → ¬ (upT < P.filterMs * 1000 ∧ downT < P.filterMs * 1000) → P.minMs * 1000 ≤ upT →
      motive ({ s with step := 0, opening := upT / 1000, done := true }, .relay 0, true)) :
    motive (acStep P s upT downT mv) := by
  have tm : ∀ {k}, s.step = k → acTime s upT downT = if k = 2 then downT else upT := fun h => h ▸ rfl
  have still : ∀ {b : Bool}, (!b) = true → b = false := by decide
  have moves : ∀ {b : Bool}, ¬ (!b) = true → b = true := by decide
  -- cases of `acStep` in the order of its text: 1 step 0; 2 inside the filter time; 3-5 step 1 (standstill / moving beyond the
  -- limit / moving within it); 6-9 step 2 (standstill too short / long enough; moving beyond / within); 10-13 step 3 likewise;
  -- 14 step > 3
  fun_cases acStep P s upT downT mv
  case case1 | case14 => exact wait (.inl (fun h => by omega))
  case case2 hf => exact wait (.inr (.inl hf))
  case case3 h1 hm => exact step2 h1 (still hm)
  case case7 h2 hm hx => exact step3 h2 (still hm) (Nat.le_of_not_lt hx)
  case case11 hf _ _ h3 hm hx => exact finish h3 (still hm) hf (Nat.le_of_not_lt hx)
  case case6 n1 h hm hx | case10 n1 _ h hm hx => exact fail (.inr ⟨still hm, n1, by rw [tm h]; exact hx⟩)
  case case4 h hm hx | case8 h hm hx | case12 h hm hx => exact fail (.inl ⟨moves hm, by rw [tm h]; exact hx⟩)
  case case5 h hm hx | case9 h hm hx | case13 h hm hx =>
    exact wait (.inr (.inr ⟨moves hm, by rw [tm h]; exact Nat.le_of_not_lt hx⟩))

/-- **C10.A1 (a step never outlasts the limit)** in every calibration step, whatever the motor sensor says, the call made
    once the run time of the step's direction is beyond the limit acts: a sensor reporting movement for ever fails the
    calibration (times zeroed, failure flag, motor off with the task cancelled); a sensor reporting standstill ends the step -/
theorem c10_ac_step_acts_after_max (P : AcParams) (hfm : P.filterMs ≤ P.maxMs) (s : AcSt) (upT downT : Nat) (mv : Bool)
    (hs : 1 ≤ s.step ∧ s.step ≤ 3) (ht : P.maxMs * 1000 < acTime s upT downT) :
    (acStep P s upT downT mv).2.1 ≠ .none ∧
    (mv = true → (acStep P s upT downT mv).2.1 = .failed ∧ (acStep P s upT downT mv).1 = s.failNow) := by
  have still : mv = false → ∀ {p : Prop}, mv = true → p := fun hm _ h => Bool.noConfusion (hm.symm.trans h)
  refine acStep_regimes P s upT downT mv ?wait ?fail ?step2 ?step3 ?finish
  case wait =>  -- excluded: the run time is beyond the limit, which is beyond the filter time
    intro h
    rcases h with h | h | h
    · exact absurd hs h
    · unfold acTime at ht
      split at ht <;> omega
    · omega
  case fail => exact fun _ => ⟨AcAct.noConfusion, fun _ => ⟨rfl, rfl⟩⟩
  case step2 => exact fun _ hm => ⟨AcAct.noConfusion, still hm⟩
  case step3 => exact fun _ hm _ => ⟨AcAct.noConfusion, still hm⟩
  case finish => exact fun _ hm _ _ => ⟨AcAct.noConfusion, still hm⟩

/-- stored times are plausible while they matter: in step 3 the closing time is at least the minimum, and a finished
    calibration has both times at least the minimum -/
def AcInv (P : AcParams) (s : AcSt) : Prop :=
  (s.step = 3 → P.minMs ≤ s.closing) ∧ (s.done = true → P.minMs ≤ s.closing ∧ P.minMs ≤ s.opening)

theorem acInv_fail (P : AcParams) (s : AcSt) : AcInv P s.failNow :=
  ⟨fun h => by simp [AcSt.failNow] at h, fun h => by simp [AcSt.failNow] at h⟩

/-- **C10.A2 (plausible times or failure)** the invariant is kept by every call, for every run time and sensor reading -/
theorem c10_ac_inv_step (P : AcParams) (s : AcSt) (upT downT : Nat) (mv : Bool) (hi : AcInv P s)
    (hnd : 1 ≤ s.step → s.done = false) :
    AcInv P (acStep P s upT downT mv).1 := by
  have hdiv : ∀ t, P.minMs * 1000 ≤ t → P.minMs ≤ t / 1000 := fun t => (Nat.le_div_iff_mul_le (by decide)).mpr
  have hd : ∀ {p : Prop}, 1 ≤ s.step → s.done = true → p := fun h1 h => by rw [hnd h1] at h; cases h
  refine acStep_regimes P s upT downT mv ?wait ?fail ?step2 ?step3 ?finish
  case wait => exact fun _ => hi
  case fail => exact fun _ => acInv_fail P s
  case step2 => exact fun h1 _ => ⟨fun h => absurd h (show (2 : Nat) ≠ 3 by decide), hd (by omega)⟩
  case step3 => exact fun h2 _ hx => ⟨fun _ => hdiv _ hx, hd (by omega)⟩
  case finish => exact fun h3 _ _ hx => ⟨fun h => absurd h (show (0 : Nat) ≠ 3 by decide), fun _ => ⟨hi.1 h3, hdiv _ hx⟩⟩

/-- **C10.A3 (success only from step 3 with a sufficient run)** a call finishes the calibration exactly when it is in step 3,
    the sensor reports standstill and the run up lasted at least the minimum; the stored opening time is that run -/
theorem c10_ac_success_iff (P : AcParams) (s : AcSt) (upT downT : Nat) (mv : Bool) (hnd : s.done = false) :
    (acStep P s upT downT mv).1.done = true ↔
      s.step = 3 ∧ mv = false ∧ P.minMs * 1000 ≤ upT ∧ ¬ (upT < P.filterMs * 1000 ∧ downT < P.filterMs * 1000) := by
  -- every regime but `finish` leaves `done` false, and is not what the right side describes
  have no : ∀ {b : Bool} {R : Prop}, b = false → ¬ R → (b = true ↔ R) :=
    fun hb hr => ⟨fun h => Bool.noConfusion (hb.symm.trans h), fun h => absurd h hr⟩
  refine acStep_regimes P s upT downT mv ?wait ?fail ?step2 ?step3 ?finish
  case wait =>
    intro h
    refine no hnd ?_
    intro ⟨h3, hm, _, hf⟩
    rcases h with h | h | h
    · omega
    · exact hf h
    · exact Bool.noConfusion (hm.symm.trans h.1)
  case fail =>
    intro h
    refine no rfl ?_
    intro ⟨h3, hm, hx, _⟩
    rcases h with h | ⟨_, _, hlt⟩
    · exact Bool.noConfusion (hm.symm.trans h.1)
    · rw [acTime, if_neg (by omega)] at hlt
      omega
  case step2 => exact fun h1 _ => no hnd (by omega)
  case step3 => exact fun h2 _ _ => no hnd (by omega)
  case finish => exact fun h3 hm hf hx => ⟨fun _ => ⟨h3, hm, hx, hf⟩, fun _ => rfl⟩

/-- **C10.A4 (a sensor that never reports movement)** a run down in step 2 whose callbacks come at most `minMs - filterMs`
    apart, with the sensor always reporting standstill, ends in failure as soon as the filter time has passed - the motor does
    not stay on: the action that ends the run is never a relay request, and it is the failure once the samples reach the filter -/
theorem c10_ac_never_moving_fails (P : AcParams) (hmf : P.filterMs ≤ P.minMs) (s : AcSt) (hs : s.step = 2) :
    ∀ (dts : List (Nat × Bool)) (t0 : Nat), t0 < P.filterMs * 1000 →
      (∀ d ∈ dts, d.2 = false ∧ d.1 ≤ (P.minMs - P.filterMs) * 1000) →
      ((acRun P false s t0 dts).2.1 = .failed ∧ (acRun P false s t0 dts).1 = s.failNow) ∨
      ((acRun P false s t0 dts).2.1 = .none ∧ (acRun P false s t0 dts).2.2 < P.filterMs * 1000) := by
  intro dts
  induction dts with
  | nil => intro t0 h0 _; exact Or.inr ⟨rfl, h0⟩
  | cons d rest ih =>
    intro t0 h0 hd
    obtain ⟨hmv, hdt⟩ := hd d List.mem_cons_self
    obtain ⟨dt, mv⟩ := d
    subst hmv
    unfold acRun
    simp only
    refine acStep_regimes P s 0 (t0 + dt) false ?wait ?fail ?step2 ?step3 ?finish
    case wait =>
      intro h
      rcases h with h | h | h
      · omega
      · exact ih (t0 + dt) h.2 (fun x hx => hd x (List.mem_cons_of_mem _ hx))  -- inside the filter time the run goes on
      · cases h.1
    case fail => exact fun _ => Or.inl ⟨rfl, rfl⟩
    case step2 => exact fun h1 _ => by omega  -- the step is 2 (`hs`)
    case step3 => exact fun _ _ hx => by omega  -- `hx`: the run time is below the minimum (`h0`, `hdt`, `hmf`)
    case finish => exact fun h3 _ _ _ => by omega

/-- the constants of /repo: filter 300 ms <= minimum 500 ms <= limit 590 s, below the general ten-minute cut-off -/
theorem c10_ac_consts : Gen.acParams.filterMs ≤ Gen.acParams.minMs ∧ Gen.acParams.minMs ≤ Gen.acParams.maxMs ∧
    Gen.acParams.maxMs * 1000 < 600 * 1000 * 1000 := by decide

/- non-vacuity: a complete calibration: step 1 ends at standstill, step 2 measures 17.5 s, step 3 measures 16 s -/
example : (acStep Gen.acParams { step := 1, closing := 0, opening := 0 } 5000000 0 false) =
    ({ step := 2, closing := 0, opening := 0 }, .relay 1, false) := by decide
example : (acStep Gen.acParams { step := 2, closing := 0, opening := 0 } 0 17500000 false) =
    ({ step := 3, closing := 17500, opening := 0 }, .relay 2, true) := by decide
example : (acStep Gen.acParams { step := 3, closing := 17500, opening := 0 } 16000000 0 false) =
    ({ step := 0, closing := 17500, opening := 16000, done := true }, .relay 0, true) := by decide
example : (acStep Gen.acParams { step := 3, closing := 17500, opening := 0 } 590000001 0 true).2.1 = .failed := by decide

end SuplaVerif.C10
