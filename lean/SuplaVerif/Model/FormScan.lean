/-
  Model/FormScan — the field scanner of the configuration form (supla_esp_cfgmode.c): request type, the header skip of
  supla_esp_parse_request, the protocol pre-pass (supla_esp_parse_proto_var) and the loop of supla_esp_parse_vars over ONE
  segment that starts with no field pending.  The table of field names (name, VAR id, buffer size, target, protocol
  condition) is regenerated from the source (Gen/FormTable.lean).  An event is what the loop hands to the per-variable
  assignment: (VAR id, buffer content after the terminator rule).
-/
import SuplaVerif.Base.Bytes
import SuplaVerif.Model.Form
namespace SuplaVerif

structure Row where
  name : Bytes        -- three characters
  var : Nat           -- VAR_xxx
  size : Nat          -- buff_size
  target : Nat        -- 0 = pVars->intval; otherwise an id of the destination buffer (a settings field, tempPassword, user_cmd)
  cond : Nat          -- 0 always; 1 only while the MQTT flag is clear; 2 only while it is set
  deriving Repr, DecidableEq

abbrev FormEv := Nat × Bytes

def condOk (r : Row) (mqtt : Bool) : Bool :=
  r.cond == 0 || (r.cond == 1 && !mqtt) || (r.cond == 2 && mqtt)

/-- the else-if chain: the first row with that name decides; its condition may leave the scanner without a field -/
def lookup (T : List Row) (mqtt : Bool) (nm : Bytes) : Option Row :=
  match T.find? (fun r => r.name == nm) with
  | some r => if condOk r mqtt then some r else none
  | none => none

/-- name position: at least four bytes left and the fourth is '=' -/
def atName (l : Bytes) : Bool := l.length ≥ 4 && l.getD 3 0 == 61

/-- the copy step of one loop iteration: (buffer, rest of the segment from the index `a` after the step) -/
def copyStep (size : Nat) (buf l : Bytes) : Bytes × Bytes :=
  if buf.length < size ∧ l ≠ [] ∧ l.headD 0 ≠ 38 then
    if l.headD 0 = 37 ∧ l.length ≥ 3 then (buf ++ [hexByte (l.getD 1 0) (l.getD 2 0)], l.drop 2)
    else (buf ++ [plain (l.headD 0)], l)
  else (buf, l)

/-- end of the value: buffer full, last byte of the segment, or '&' -/
def valueEnds (size : Nat) (buf l : Bytes) : Bool :=
  buf.length ≥ size || l.length ≤ 1 || l.headD 0 == 38

/-- one iteration of the loop of supla_esp_parse_vars at the rest `l` (not empty) of the segment -/
structure Iter where
  ev : Option FormEv
  cur : Option (Row × Bytes)
  rest : Bytes

def iter (T : List Row) (mqtt : Bool) (l : Bytes) (cur : Option (Row × Bytes)) : Iter :=
  let cur1 : Option (Row × Bytes) :=
    if cur.isNone && atName l then (lookup T mqtt (l.take 3)).map (fun r => (r, [])) else cur
  let l1 : Bytes := if cur.isNone && atName l then l.drop 4 else l
  match cur1 with
  | none => { ev := none, cur := none, rest := l1.drop 1 }
  | some (row, buf) =>
    if valueEnds row.size (copyStep row.size buf l1).1 (copyStep row.size buf l1).2 then
      { ev := some (row.var, stored row.size (copyStep row.size buf l1).1), cur := none, rest := (copyStep row.size buf l1).2.drop 1 }
    else { ev := none, cur := some (row, (copyStep row.size buf l1).1), rest := (copyStep row.size buf l1).2.drop 1 }

/-- the loop of supla_esp_parse_vars over the rest `l` of the segment; `cur` = the pending field and its buffer content.
    Result: the events in order and the field left pending at the end of the segment.  (`fuel` bounds the iterations; every
    iteration consumes at least one byte - `iter_rest` - so the length of the rest is enough.) -/
def scanF (T : List Row) (mqtt : Bool) : Nat → Bytes → Option (Row × Bytes) → List FormEv × Option (Row × Bytes)
  | 0, _, cur => ([], cur)
  | fuel + 1, l, cur =>
    if l = [] then ([], cur)
    else
      ((iter T mqtt l cur).ev.toList ++ (scanF T mqtt fuel (iter T mqtt l cur).rest (iter T mqtt l cur).cur).1,
       (scanF T mqtt fuel (iter T mqtt l cur).rest (iter T mqtt l cur).cur).2)

def scan (T : List Row) (mqtt : Bool) (l : Bytes) (cur : Option (Row × Bytes)) : List FormEv × Option (Row × Bytes) :=
  scanF T mqtt l.length l cur

/-- supla_esp_parse_proto_var over one segment with no field pending: the first character behind the first "pro="
    that has at least one byte behind the '=' (none: no such position in the segment) -/
def protoScanF (pro : Bytes) : Nat → Bytes → Option UInt8
  | 0, _ => none
  | _, [] => none
  | fuel + 1, c :: rest =>
    if atName (c :: rest) then
      if (c :: rest).take 3 == pro && (c :: rest).length ≥ 5 then some (rest.getD 3 0)
      else protoScanF pro fuel (rest.drop 4)
    else protoScanF pro fuel rest

def protoScan (pro : Bytes) (l : Bytes) : Option UInt8 := protoScanF pro l.length l

/-- request type of supla_esp_parse_request: 0 unknown, 1 GET, 2 POST (only " / HTTP" follows the method) -/
def reqType (l : Bytes) : Nat :=
  if l.take 3 == [71, 69, 84] && l.length ≥ 10 && (l.drop 3).take 7 == [32, 47, 32, 72, 84, 84, 80] then 1
  else if l.take 4 == [80, 79, 83, 84] && l.length ≥ 11 && (l.drop 4).take 7 == [32, 47, 32, 72, 84, 84, 80] then 2
  else 0

/-- number of positions where CR LF CR LF starts -/
def countHeadEnds : Bytes → Nat
  | [] => 0
  | c :: rest => (if (c :: rest).take 4 == [13, 10, 13, 10] then 1 else 0) + countHeadEnds rest

/-- a whole POST in one segment: (fields counted, events, MQTT flag after the pre-pass); `none`: not a POST to "/" or no
    end of the head in the segment -/
def postScan (T : List Row) (pro : Bytes) (mqtt0 : Bool) (seg : Bytes) : Option (Nat × List FormEv × Bool) :=
  if reqType seg = 2 ∧ countHeadEnds seg > 0 then
    let body := seg.drop (3 * countHeadEnds seg)
    let p := protoScan pro body
    let mqtt := match p with
      | some ch => ch == 49
      | none => mqtt0
    let r := scan T mqtt body none
    some ((if p.isSome then 1 else 0) + r.1.length, r.1, mqtt)
  else none

end SuplaVerif
