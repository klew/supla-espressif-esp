/-
  Base/CStr — what "read up to the first NUL" (`Bytes.cstr`) means: the string has no NUL; a buffer with a NUL is the
  string, the NUL and a rest; that decomposition is the only one; so the string depends only on the bytes up to its NUL,
  and a cut behind the NUL leaves it.
-/
import SuplaVerif.Base.Bytes
namespace SuplaVerif.Bytes

-- cases of `cstr`, here and below: 1 empty buffer, 2 a NUL first, 3 a byte `c ≠ 0` first
theorem cstr_ne_zero (b : Bytes) : ∀ x ∈ cstr b, x ≠ 0 := by
  fun_induction cstr b with
  | case1 | case2 => nofun
  | case3 c cs hc ih => exact List.forall_mem_cons.mpr ⟨hc, ih⟩

theorem cstr_append (p r : Bytes) (h : ∀ x ∈ p, x ≠ 0) : cstr (p ++ r) = p ++ cstr r := by
  induction p with
  | nil => rfl
  | cons x xs ih =>
    rw [List.cons_append, cstr, if_neg (h x List.mem_cons_self), ih (fun y hy => h y (List.mem_cons_of_mem _ hy))]; rfl

theorem cstr_append_zero (p r : Bytes) (h : ∀ x ∈ p, x ≠ 0) : cstr (p ++ 0 :: r) = p := by
  rw [cstr_append p _ h, cstr, if_pos rfl, List.append_nil]

theorem cstr_of_ne_zero (p : Bytes) (h : ∀ x ∈ p, x ≠ 0) : cstr p = p := by
  rw [← List.append_nil p, cstr_append p [] h]; rfl

theorem cstr_length_lt (b : Bytes) (h : 0 ∈ b) : (cstr b).length < b.length := by
  fun_induction cstr b with
  | case1 => cases h
  | case2 => exact Nat.zero_lt_succ _
  | case3 c cs hc ih =>                                -- the NUL is in `cs`
    exact Nat.succ_lt_succ (ih ((List.mem_cons.mp h).resolve_left (Ne.symm hc)))

theorem cstr_split (b : Bytes) (h : (cstr b).length < b.length) : b = cstr b ++ 0 :: b.drop ((cstr b).length + 1) := by
  fun_induction cstr b with
  | case1 => cases h
  | case2 cs => rfl
  | case3 c cs hc ih => exact congrArg (c :: ·) (ih (Nat.lt_of_succ_lt_succ h))

theorem cstr_eq_of_take_eq (a b : Bytes) (h : (cstr a).length < a.length)
    (hb : b.take ((cstr a).length + 1) = a.take ((cstr a).length + 1)) : cstr b = cstr a := by
  have hn := cstr_ne_zero a
  have hs := cstr_split a h
  -- with `c` for the string: `a = c ++ 0 :: _`, so `b` begins with `c ++ [0]` as well
  generalize cstr a = c at *
  rw [hs, List.take_length_add_append] at hb
  rw [← List.take_append_drop (c.length + 1) b, hb, List.append_assoc]
  exact cstr_append_zero c _ hn

theorem cstr_take (b : Bytes) : ∀ n, (cstr b).length < n → cstr (b.take n) = cstr b := by
  fun_induction cstr b with
  | case1 => intro n _; rw [List.take_nil]; rfl
  | case2 cs =>
    intro n h
    cases n with
    | zero => cases h
    | succ k => rw [List.take_succ_cons, cstr, if_pos rfl]
  | case3 c cs hc ih =>
    intro n h
    cases n with
    | zero => cases h
    | succ k => rw [List.take_succ_cons, cstr, if_neg hc, ih k (Nat.lt_of_succ_lt_succ h)]

end SuplaVerif.Bytes
