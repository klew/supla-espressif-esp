/-
  Base/Bytes — byte strings as `List UInt8`, little-endian words, C strings, and the hex
  notation of the driver's ops files.
-/
namespace SuplaVerif

abbrev Bytes := List UInt8

namespace Bytes

/-- little-endian 32-bit read of the first four bytes (missing bytes read as 0) -/
def le32 (b : Bytes) : Nat :=
  (b.getD 0 0).toNat + 256 * (b.getD 1 0).toNat + 65536 * (b.getD 2 0).toNat
    + 16777216 * (b.getD 3 0).toNat

def le16 (b : Bytes) : Nat :=
  (b.getD 0 0).toNat + 256 * (b.getD 1 0).toNat

/-- big-endian 16-bit read (network order) -/
def be16 (b : Bytes) : Nat :=
  256 * (b.getD 0 0).toNat + (b.getD 1 0).toNat

def toLe32 (n : Nat) : Bytes :=
  [UInt8.ofNat (n % 256), UInt8.ofNat (n / 256 % 256), UInt8.ofNat (n / 65536 % 256),
   UInt8.ofNat (n / 16777216 % 256)]

def toBe16 (n : Nat) : Bytes :=
  [UInt8.ofNat (n / 256 % 256), UInt8.ofNat (n % 256)]

theorem toLe32_length (n : Nat) : (toLe32 n).length = 4 := rfl
theorem toBe16_length (n : Nat) : (toBe16 n).length = 2 := rfl

theorem u8_ofNat_toNat (k : Nat) (h : k < 256) : (UInt8.ofNat k).toNat = k :=
  UInt8.toNat_ofNat_of_lt' h

theorem le32_lt (b : Bytes) : le32 b < 4294967296 := by
  unfold le32
  have h0 := (b.getD 0 0).toNat_lt
  have h1 := (b.getD 1 0).toNat_lt
  have h2 := (b.getD 2 0).toNat_lt
  have h3 := (b.getD 3 0).toNat_lt
  omega

theorem le32_toLe32 (n : Nat) (h : n < 4294967296) (rest : Bytes) :
    le32 (toLe32 n ++ rest) = n := by
  unfold le32 toLe32
  simp only [List.cons_append, List.getD_cons_zero, List.getD_cons_succ]
  rw [u8_ofNat_toNat _ (Nat.mod_lt _ (by decide)), u8_ofNat_toNat _ (Nat.mod_lt _ (by decide)),
    u8_ofNat_toNat _ (Nat.mod_lt _ (by decide)), u8_ofNat_toNat _ (Nat.mod_lt _ (by decide))]
  omega

theorem be16_toBe16 (n : Nat) (h : n < 65536) (rest : Bytes) :
    be16 (toBe16 n ++ rest) = n := by
  unfold be16 toBe16
  simp only [List.cons_append, List.getD_cons_zero, List.getD_cons_succ]
  rw [u8_ofNat_toNat _ (Nat.mod_lt _ (by decide)), u8_ofNat_toNat _ (Nat.mod_lt _ (by decide))]
  omega

theorem getD_append_lt (b x : Bytes) (i : Nat) (h : i < b.length) : (b ++ x).getD i 0 = b.getD i 0 := by
  simp [List.getElem?_append_left h]

/-- reading the first four bytes only depends on those bytes -/
theorem le32_append_of_length (a b : Bytes) (h : 4 ≤ a.length) : le32 (a ++ b) = le32 a := by
  unfold le32
  rw [getD_append_lt a b 0 (by omega), getD_append_lt a b 1 (by omega), getD_append_lt a b 2 (by omega),
    getD_append_lt a b 3 (by omega)]

theorem be16_append (l x : Bytes) (h : 2 ≤ l.length) : be16 (l ++ x) = be16 l := by
  unfold be16
  rw [getD_append_lt l x 0 (by omega), getD_append_lt l x 1 (by omega)]

theorem drop_eq_cons {b t : Bytes} {i : Nat} {c : UInt8} (h : b.drop i = c :: t) :
    i < b.length ∧ b.getD i 0 = c ∧ b.drop (i + 1) = t := by
  have hi : i < b.length := by
    apply Nat.lt_of_not_le; intro hle; rw [List.drop_eq_nil_of_le hle] at h; cases h
  refine ⟨hi, ?_, ?_⟩
  · rw [List.getD_eq_getElem?_getD, ← Nat.add_zero i, ← List.getElem?_drop, h]; rfl
  · rw [← List.drop_drop, h]; rfl

theorem le32_drop (l : Bytes) (k : Nat) :
    le32 (l.drop k) = (l.getD k 0).toNat + 256 * (l.getD (k + 1) 0).toNat
      + 65536 * (l.getD (k + 2) 0).toNat + 16777216 * (l.getD (k + 3) 0).toNat := by
  simp [le32]

theorem getD_cons_drop (l : Bytes) (k : Nat) (h : k < l.length) :
    l.getD k 0 :: l.drop (k + 1) = l.drop k := by
  rw [List.drop_eq_getElem_cons h, List.getD_eq_getElem?_getD, List.getElem?_eq_getElem h]; rfl

theorem take_drop_append_drop (l : Bytes) (a k c : Nat) (h : a + k = c) :
    (l.drop a).take k ++ l.drop c = l.drop a := by
  rw [← h, ← List.drop_drop, List.take_append_drop]

theorem le32_drop_append (a b : Bytes) (k : Nat) (h : k + 4 ≤ a.length) :
    le32 ((a ++ b).drop k) = le32 (a.drop k) := by
  rw [List.drop_append_of_le_length (by omega), le32_append_of_length _ _ (by rw [List.length_drop]; omega)]

theorem digit256 (x y : Nat) (hx : x < 256) : (x + 256 * y) / 256 = y := by
  omega

end Bytes

section
open Bytes

theorem getD_drop (l : Bytes) (k i : Nat) : (l.drop k).getD i 0 = l.getD (k + i) 0 := by
  simp

theorem toLe32_le32 (b : Bytes) (h : 4 ≤ b.length) : toLe32 (le32 b) = b.take 4 := by
  match b, h with
  | a :: b :: c :: d :: rest, _ =>
    unfold toLe32 le32
    simp only [List.getD_cons_zero, List.getD_cons_succ]
    have ha := a.toNat_lt; have hb := b.toNat_lt; have hc := c.toNat_lt
    -- in Horner form the four bytes come off one at a time as base-256 digits
    have e : a.toNat + 256 * b.toNat + 65536 * c.toNat + 16777216 * d.toNat =
        a.toNat + 256 * (b.toNat + 256 * (c.toNat + 256 * d.toNat)) := by omega
    rw [e, show 65536 = 256 * 256 from rfl, show 16777216 = 256 * 256 * 256 from rfl,
      ← Nat.div_div_eq_div_mul, ← Nat.div_div_eq_div_mul, ← Nat.div_div_eq_div_mul,
      digit256 _ _ ha, digit256 _ _ hb,
      digit256 _ _ hc]
    simp

end

namespace Bytes

/-- the C-string view: bytes before the first NUL -/
def cstr : Bytes → Bytes
  | [] => []
  | b :: bs => if b = 0 then [] else b :: cstr bs

theorem cstr_length_le (b : Bytes) : (cstr b).length ≤ b.length := by
  induction b with
  | nil => simp [cstr]
  | cons x xs ih => unfold cstr; split <;> simp <;> omega

/-- a NUL occurs within the first `n` bytes -/
def Terminated (n : Nat) (b : Bytes) : Prop := (cstr (b.take n)).length < n

def hexDigit (n : Nat) : Char :=
  if n < 10 then Char.ofNat (48 + n) else Char.ofNat (87 + n)

def toHex (b : Bytes) : String :=
  String.ofList (b.foldr (fun x acc => hexDigit (x.toNat / 16) :: hexDigit (x.toNat % 16) :: acc) [])

def hexVal (c : Char) : Option Nat :=
  if '0' ≤ c ∧ c ≤ '9' then some (c.toNat - 48)
  else if 'a' ≤ c ∧ c ≤ 'f' then some (c.toNat - 87)
  else if 'A' ≤ c ∧ c ≤ 'F' then some (c.toNat - 55)
  else none

def ofHexChars : List Char → Option Bytes
  | [] => some []
  | [_] => none
  | a :: b :: rest => do
    let x ← hexVal a
    let y ← hexVal b
    let r ← ofHexChars rest
    pure (UInt8.ofNat (16 * x + y) :: r)

/-- "-" stands for the empty string in ops files -/
def ofHex (s : String) : Option Bytes :=
  if s = "-" then some [] else ofHexChars s.toList

end Bytes
end SuplaVerif
