/-
  Base/List — general facts about lists.
-/
namespace SuplaVerif

/-- folding a step function over a list of time intervals carries along an invariant `J T n s` indexed by the time elapsed and
    the number of steps taken -/
theorem foldl_timed {σ : Type} (f : σ → Nat → σ) (J : Nat → Nat → σ → Prop)
    (step : ∀ T n s dt, J T n s → J (T + dt) (n + 1) (f s dt)) (dts : List Nat) (s : σ) (h : J 0 0 s) :
    J dts.sum dts.length (dts.foldl f s) := by
  have gen : ∀ (dts : List Nat) (T n : Nat) (s : σ), J T n s → J (T + dts.sum) (n + dts.length) (dts.foldl f s) := by
    intro dts
    induction dts with
    | nil => intro T n s h; exact h
    | cons dt dts ih =>
      intro T n s h
      have := ih (T + dt) (n + 1) (f s dt) (step T n s dt h)
      rwa [Nat.add_assoc, Nat.add_assoc, Nat.add_comm 1] at this
  have := gen dts 0 0 s h
  rwa [Nat.zero_add, Nat.zero_add] at this

theorem run_eq_foldl {σ α : Type} (f : σ → α → σ) (run : σ → List α → σ) (h0 : ∀ s, run s [] = s)
    (h1 : ∀ s a as, run s (a :: as) = run (f s a) as) : ∀ (as : List α) (s : σ), run s as = as.foldl f s := by
  intro as
  induction as with
  | nil => exact h0
  | cons a as ih => intro s; rw [h1]; exact ih _

/-- `Nodup` of the keys: entries at different places have different keys (`p`).  "Equal keys, equal entries" is that read
    backwards; it is reflexive and symmetric, which core's lemma needs to pass from list order to any two members -/
theorem nodup_map_inj {α β : Type} (f : α → β) (l : List α) (h : (l.map f).Nodup) :
    ∀ a ∈ l, ∀ b ∈ l, f a = f b → a = b :=
  have p : l.Pairwise (fun a b => f a ≠ f b) := List.pairwise_map.mp h
  fun _ ha _ hb => List.Pairwise.forall_of_forall_of_flip (R := fun a b => f a = f b → a = b) (fun _ _ _ => rfl)
    (p.imp fun hne e => absurd e hne) (p.imp fun hne e => absurd e.symm hne) ha hb

end SuplaVerif
