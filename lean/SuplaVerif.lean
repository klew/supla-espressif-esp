import SuplaVerif.Base.Bytes
import SuplaVerif.Base.CStr
import SuplaVerif.Base.List
import SuplaVerif.Gen.Consts
import SuplaVerif.Gen.FormTable
import SuplaVerif.Gen.GetData
import SuplaVerif.Gen.Html
import SuplaVerif.Gen.MigrateTable
import SuplaVerif.Lemmas.FbTask
import SuplaVerif.Lemmas.Form
import SuplaVerif.Lemmas.FormScan
import SuplaVerif.Lemmas.Frame
import SuplaVerif.Lemmas.InputAt
import SuplaVerif.Lemmas.Io
import SuplaVerif.Lemmas.MqttAck
import SuplaVerif.Lemmas.MqttLive
import SuplaVerif.Lemmas.MqttParse
import SuplaVerif.Lemmas.MqttStream
import SuplaVerif.Lemmas.Out
import SuplaVerif.Lemmas.Proto
import SuplaVerif.Lemmas.RsPos
import SuplaVerif.Lemmas.RsRun
import SuplaVerif.Lemmas.RsTask
import SuplaVerif.Lemmas.Wrap
import SuplaVerif.Model.AutoCal
import SuplaVerif.Model.CalCfg
import SuplaVerif.Model.CfgButton
import SuplaVerif.Model.CfgStore
import SuplaVerif.Model.Countdown
import SuplaVerif.Model.Cred
import SuplaVerif.Model.Debounce
import SuplaVerif.Model.DevConn
import SuplaVerif.Model.Dns
import SuplaVerif.Model.FbTask
import SuplaVerif.Model.Form
import SuplaVerif.Model.FormFlags
import SuplaVerif.Model.FormScan
import SuplaVerif.Model.FrameSpec
import SuplaVerif.Model.GetData
import SuplaVerif.Model.InputAt
import SuplaVerif.Model.KeepAlive
import SuplaVerif.Model.Migrate
import SuplaVerif.Model.Mqtt
import SuplaVerif.Model.MqttAck
import SuplaVerif.Model.MqttRecv
import SuplaVerif.Model.MqttTopic
import SuplaVerif.Model.Page
import SuplaVerif.Model.Proto
import SuplaVerif.Model.Relay
import SuplaVerif.Model.RsPos
import SuplaVerif.Model.RsRelay
import SuplaVerif.Model.RsTask
import SuplaVerif.Model.Srpc
import SuplaVerif.Model.UpdHdr
import SuplaVerif.Model.Update
import SuplaVerif.Model.Uptime
import SuplaVerif.Props.C01
import SuplaVerif.Props.C02
import SuplaVerif.Props.C03
import SuplaVerif.Props.C04
import SuplaVerif.Props.C05
import SuplaVerif.Props.C06
import SuplaVerif.Props.C07
import SuplaVerif.Props.C08
import SuplaVerif.Props.C09
import SuplaVerif.Props.C10
import SuplaVerif.Props.C11
import SuplaVerif.Props.C12
import SuplaVerif.Props.C13
import SuplaVerif.Props.C14
import SuplaVerif.Props.C15
import SuplaVerif.Props.C16
import SuplaVerif.Props.C17
import SuplaVerif.Props.C18
import SuplaVerif.Props.C19
import SuplaVerif.Props.C20
